import Rcgen.Base.Bytes
import Rcgen.Base.Der
import Rcgen.Model.Types
import Rcgen.Model.Strings
import Rcgen.Model.Name
import Rcgen.Model.Time
import Rcgen.Model.Cert
import Rcgen.Model.Csr
import Rcgen.Model.Crl
import Rcgen.Model.Sign
import Rcgen.Model.Sha2
import Rcgen.Proofs.DerRoundTrip
import Rcgen.Theorems.C01
import Rcgen.Theorems.C02
import Rcgen.Theorems.C03
import Rcgen.Theorems.C03_Chain
import Rcgen.Theorems.C04
import Rcgen.Theorems.C04_Schema
import Rcgen.Theorems.C05
import Rcgen.Theorems.C06
import Rcgen.Theorems.C06_Ber
import Rcgen.Theorems.C07
import Rcgen.Theorems.C08
import Rcgen.Theorems.C09
import Rcgen.Theorems.C10
import Rcgen.Theorems.C11
import Rcgen.Theorems.C12
import Rcgen.Theorems.C12_Subnet
import Rcgen.Theorems.C13
import Rcgen.Theorems.C14
import Rcgen.Theorems.C15
import Rcgen.Theorems.C16
import Rcgen.Theorems.C16_Import
import Rcgen.Theorems.C17
import Rcgen.Theorems.C18
import Rcgen.Theorems.C19
import Rcgen.Theorems.C20
import Rcgen.Model.Cli
import Rcgen.Model.Ctor
import Rcgen.Model.Error
import Rcgen.Proofs.PemParse
import Rcgen.Proofs.Spki
import Rcgen.Model.PemParse
import Rcgen.Model.Spki
import Rcgen.Proofs.Ctor
import Rcgen.Model.Keys
import Rcgen.Model.Import
import Rcgen.Model.CsrParse
import Rcgen.Model.Pem
import Rcgen.Spec.Pem
import Rcgen.Spec.Validate
import Rcgen.Proofs.Issue
