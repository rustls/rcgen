import Rcgen.Theorems.C07
import Rcgen.Theorems.C08
/-
  C04, second part: DER is the encoding of a value *of the type*.  Generic TLV canonicity
  (definite minimal lengths, sorted sets, …) does not notice a field written in another shape
  than its ASN.1 definition gives it — an implicitly tagged primitive in the constructed form,
  say.  The clause `C04:follows-the-asn1-schema` of the check asks that the typed RFC 5280 /
  2986 reader reads the artefact; for the model this is a corollary of the decode theorems.
-/
namespace Rcgen.Theorems.C04
open Rcgen.Model Rcgen.Spec

/-- every to-be-signed certificate rcgen returns is read by the typed RFC 5280 reader -/
theorem cert_follows_schema (i : CertInputs)
    (hinv : certInvalid i.p i.issuer = none) (hnp : certPanics i.p i.issuer = false)
    (hc : ∀ e ∈ i.p.customExts, e.oid ∉ C02.interpretedOids)
    (hsize : (encode (tbsCertificate i.H i.p i.subject i.issuer)).length < 256 ^ 126) :
    (decodeTbsCert (encode (tbsCertificate i.H i.p i.subject i.issuer))).isSome = true := by
  rw [C02.cert_decodes_to_record i hinv hnp hc hsize]; rfl

/-- every certificationRequestInfo is read by the typed RFC 2986 reader -/
theorem csr_follows_schema (i : Spec.CsrInputs) (vals : Attribute → Asn1)
    (hv : C07.ValuesAreDer i.attrs vals) (hnp : csrPanics i.p i.attrs = false)
    (hsize : (encode (csrInfo i.p i.subject i.attrs)).length < 256 ^ 126) :
    (Spec.decodeCsrInfo (encode (csrInfo i.p i.subject i.attrs))).isSome = true := by
  rw [C07.csr_decodes_to_record i vals hv hnp hsize]; rfl

/-- every TBSCertList is read by the typed RFC 5280 reader -/
theorem crl_follows_schema (i : Spec.CrlInputs)
    (hinv : crlInvalid i.p i.issuer = none) (hnp : crlPanics i.p i.issuer = false)
    (hsize : (encode (tbsCertList i.H i.p i.issuer)).length < 256 ^ 126) :
    (Spec.decodeTbsCrl (encode (tbsCertList i.H i.p i.issuer))).isSome = true := by
  rw [C08.crl_decodes_to_record i hinv hnp hsize]; rfl

end Rcgen.Theorems.C04
