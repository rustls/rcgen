import Rcgen.Proofs.CrlDecode
import Rcgen.Proofs.Profile
/-
  C05 — output satisfies the structural MUSTs of the RFC 5280 / RFC 2986 profile.
  Stated twice: on the trees the writers produce (criticality flag = presence of BOOLEAN TRUE in
  the Extension SEQUENCE, `extNode`), and on the records an RFC 5280 reader decodes from the
  encoded certificate and CRL (`cert_profile_decoded`, `crl_profile_decoded`,
  `own_extension_oids_unique`).
-/
namespace Rcgen.Theorems.C05
open Rcgen.Model

/-- v3 always (so in particular whenever extensions are carried) -/
theorem version_v3 (H : Hashes) (p : CertParams) (s : PubKey) (i : Issuer) :
    (tbsCertificateFields H p s i)[0]? = some (.cons 2 0 [.prim 0 2 [2]]) := by
  have h2 : intContentOfNat 2 = [2] := by decide
  simp [tbsCertificateFields, Asn1.explicit, Asn1.intOfNat, h2]

theorem stripZeros_length_le (bs : Bytes) : (stripZeros bs).length ≤ bs.length := by
  induction bs with
  | nil => simp [stripZeros]
  | cons b bs ih =>
    simp only [stripZeros]
    split
    · exact Nat.le_succ_of_le ih  -- a leading zero goes
    · exact Nat.le_refl _

theorem stripZeros_head_or_shorter (b : UInt8) (bs : Bytes) :
    stripZeros (b :: bs) = b :: bs ∨ (stripZeros (b :: bs)).length ≤ bs.length := by
  simp only [stripZeros]
  split
  · right; exact stripZeros_length_le bs
  · left; rfl

/-- **automatic serial**: for every subject key and every hash family with at least 20 output
    octets, the serial is a non-negative INTEGER of at most 20 content octets.  It is zero only
    if the first 20 digest octets, top bit cleared, are all zero — a 159-bit preimage condition
    on SHA-256, which this theorem does not exclude: `cert_profile_decoded` takes positivity as
    its hypothesis `hser`. -/
theorem auto_serial (H : Hashes) (k : PubKey) (h20 : 20 ≤ (H.sha256 k.raw).length) :
    let c := intContentOfBytes (autoSerialBytes H k)
    c.length ≤ 20 ∧ (∃ b r, c = b :: r ∧ b.toNat < 128) := by
  simp only
  unfold autoSerialBytes
  have hlen : ((H.sha256 k.raw).take 20).length = 20 := by simp; omega
  cases ht : (H.sha256 k.raw).take 20 with
  | nil => rw [ht] at hlen; simp at hlen
  | cons b r =>
    rw [ht] at hlen
    simp only [List.length_cons] at hlen
    simp only
    have hb : (UInt8.ofNat (b.toNat &&& 127)).toNat < 128 := by
      have : b.toNat &&& 127 ≤ 127 := Nat.and_le_right
      rw [toNat_ofNat_lt (by omega)]
      omega
    generalize UInt8.ofNat (b.toNat &&& 127) = b' at hb
    unfold intContentOfBytes
    rcases stripZeros_head_or_shorter b' r with h | h
    · rw [h]
      have : ¬ b'.toNat ≥ 128 := by omega
      simp only [this, if_false]
      exact ⟨by simp; omega, b', r, rfl, hb⟩
    · cases hs : stripZeros (b' :: r) with
      | nil => exact ⟨by simp, 0, [], rfl, by decide⟩
      | cons x xs =>
        rw [hs] at h
        simp only [List.length_cons] at h
        simp only
        split
        next => exact ⟨by simp; omega, 0, x :: xs, rfl, by decide⟩
        next hx => exact ⟨by simp; omega, x, xs, rfl, by omega⟩

/-- criticality flag of an extension node as written by `write_x509_extension` -/
def isCritical : Asn1 → Bool
  | .cons 0 16 [_, .prim 0 1 _, _] => true
  | _ => false

theorem extNode_critical (oid : List Nat) (c : Bool) (v : Bytes) :
    isCritical (extNode oid c v) = c := by
  cases c <;> simp [extNode, isCritical, Asn1.seq, Asn1.bool, Asn1.octets, Asn1.oid]

/-- subject alternative name is critical exactly when the subject name is empty -/
theorem san_critical_iff_subject_empty (p : CertParams) (h : p.sans ≠ []) :
    ∃ e, sanExt p = [e] ∧ isCritical e = p.dn.entries.isEmpty := by
  unfold sanExt
  have : p.sans.isEmpty = false := by simpa using h
  simp only [this, Bool.false_eq_true, if_false]
  exact ⟨_, rfl, extNode_critical _ _ _⟩

/-- basic constraints is critical (in CA certificates and whenever written); the subject key
    identifier next to it is not -/
theorem bc_critical_ski_not (H : Hashes) (p : CertParams) (s : PubKey) (pl : Option Nat)
    (h : p.isCa = .ca pl) :
    ∃ ski bc, caExts H p s = [ski, bc] ∧ isCritical ski = false ∧ isCritical bc = true := by
  unfold caExts
  rw [h]
  exact ⟨_, _, rfl, extNode_critical _ _ _, extNode_critical _ _ _⟩

/-- name constraints is critical, and an empty value is omitted -/
theorem nc_critical (nc : NameConstraints) :
    (nc.isEmpty = true → nameConstraintsExt (some nc) = []) ∧
    (nc.isEmpty = false → ∃ e, nameConstraintsExt (some nc) = [e] ∧ isCritical e = true) := by
  unfold nameConstraintsExt
  constructor
  · intro h; simp [h]
  · intro h; simp only [h, Bool.false_eq_true, if_false]; exact ⟨_, rfl, extNode_critical _ _ _⟩

/-- the authority key identifier is never critical (certificates and CRLs) -/
theorem aki_noncritical (k : Bytes) : isCritical (akiExt k) = false := extNode_critical _ _ _

/-- CRL: v2; AKI and CRL number always present and non-critical; IDP critical when requested;
    no revokedCertificates field when nothing is revoked -/
theorem crl_profile (H : Hashes) (p : CrlParams) (i : Issuer) :
    (∃ aki num rest, crlExtensions H p i = aki :: num :: rest ∧
      isCritical aki = false ∧ isCritical num = false ∧
      (p.idp = none → rest = []) ∧
      (∀ d, p.idp = some d → ∃ e, rest = [e] ∧ isCritical e = true)) ∧
    (p.revoked = [] →
      tbsCertList H p i =
        .seq [Asn1.intOfNat 1, algIdent i.key.alg, writeDistinguishedName i.dn,
              writeTime p.thisUpdate, writeTime p.nextUpdate,
              Asn1.explicit 0 (.seq (crlExtensions H p i))]) := by
  constructor
  · unfold crlExtensions
    refine ⟨_, _, _, rfl, extNode_critical _ _ _, extNode_critical _ _ _, ?_, ?_⟩
    · intro h; simp [h]
    · intro d h; simp only [h]; exact ⟨_, rfl, extNode_critical _ _ _⟩
  · intro h; simp [tbsCertList, h]

/-- **the certificate profile read off the decoded certificate**: every clause of
    `Spec.c05CertClauses` — version 3; the automatic serial positive and within 20 octets
    (hypothesis `hser`, discharged by `auto_serial` for any hash family with ≥ 20 output octets
    whose first 159 bits are not all zero); subject alternative name critical exactly when the
    subject is empty; basic constraints critical whenever cA is asserted; name constraints
    critical; authority and subject key identifiers non-critical; each of rcgen's own eight
    extension identifiers at most once — holds of the encoded to-be-signed certificate, for all
    parameters whose subject name is in a reachable state (`Inv`, C20) -/
theorem cert_profile_decoded (i : Spec.CertInputs)
    (hinv : certInvalid i.p i.issuer = none)
    (hnp : certPanics i.p i.issuer = false)
    (hc : ∀ e ∈ i.p.customExts, e.oid ∉ Proofs.X509.knownOids)
    (hsize : (encode (tbsCertificate i.H i.p i.subject i.issuer)).length < 256 ^ 126)
    (hdn : Inv i.p.dn)
    (hser : i.p.serial.isSome = true ∨ (0 < Spec.reqSerial i ∧ Spec.reqSerial i < 2 ^ 159)) :
    Spec.c05CertClauses i (encode (tbsCertificate i.H i.p i.subject i.issuer)) = [] :=
  Proofs.Profile.c05_cert_clauses_hold i hinv hnp hc hsize hdn hser

/-- each of rcgen's own extension identifiers occurs at most once in a certificate -/
theorem own_extension_oids_unique (i : Spec.CertInputs)
    (hc : ∀ e ∈ i.p.customExts, e.oid ∉ Proofs.X509.knownOids) (o : List Nat)
    (ho : o ∈ Proofs.X509.knownOids) :
    ((Proofs.CertDecode.modelExts i).filter (fun e => e.oid == o)).length ≤ 1 :=
  Proofs.CertDecode.own_oid_at_most_once i hc o ho

/-- the same profile read off the *decoded* CRL: every clause of `Spec.c05CrlClauses` (v2,
    nextUpdate present, AKI and CRL number exactly once and non-critical, IDP critical, no empty
    revokedCertificates) holds of the encoded TBSCertList for all parameters -/
theorem crl_profile_decoded (i : Spec.CrlInputs)
    (hinv : crlInvalid i.p i.issuer = none)
    (hnp : crlPanics i.p i.issuer = false)
    (hsize : (encode (tbsCertList i.H i.p i.issuer)).length < 256 ^ 126) :
    Spec.c05CrlClauses i (encode (tbsCertList i.H i.p i.issuer)) = [] :=
  -- `hnp` is not needed: what the decode uses of it is established by the validation `hinv`
  Proofs.CrlDecode.c05_crl_clauses_hold i hinv hsize

/-- CSR: version 0, attributes field always present, at most one extension request -/
theorem csr_profile (p : CertParams) (s : PubKey) (attrs : List Attribute) :
    (∃ a, csrInfo p s attrs = .seq [.prim 0 2 [0], writeDistinguishedName p.dn, spkiNode s, .cons 2 0 a]) ∧
    ((csrAttributes p []).length ≤ 1) := by
  constructor
  · refine ⟨sortByEncoding (csrAttributes p attrs), ?_⟩
    have h0 : intContentOfNat 0 = [0] := by decide
    simp [csrInfo, Asn1.intOfNat, Asn1.implicit, Asn1.setOf, h0]
  · unfold csrAttributes; split <;> simp

/-- ... and the subject alternative name a *request* asks for follows the same rule as the one a
    certificate carries: it is among the requested extensions, once, critical exactly when the
    request's subject is empty (the harness reads this clause off every real request) -/
theorem csr_san_critical_iff_subject_empty (p : CertParams) (h : p.sans ≠ []) :
    ∃ e, sanExt p = [e] ∧ e ∈ requestedExtensions p ∧ isCritical e = p.dn.entries.isEmpty := by
  obtain ⟨e, he, hc⟩ := san_critical_iff_subject_empty p h
  refine ⟨e, he, ?_, hc⟩
  unfold requestedExtensions
  simp [he]

/-! non-vacuity: `isCritical` reads the flag that `extNode` writes -/
example : isCritical (extNode [2, 5, 29, 19] true []) = true := by decide

end Rcgen.Theorems.C05
