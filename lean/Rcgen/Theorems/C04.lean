import Rcgen.Theorems.C09
import Rcgen.Theorems.C02
import Rcgen.Theorems.C13
import Rcgen.Spec.X509
import Rcgen.Proofs.Canon
import Rcgen.Proofs.Alphabets
import Rcgen.Proofs.Utf8
/-
  C04 — everything emitted as DER is canonical DER.
  The TLV layer (definite minimal lengths, low tag numbers, no trailing bytes) is the generic
  theorem `decodeAll_encode` (Proofs/DerRoundTrip.lean): every well-formed tree the writers
  produce is accepted by the strict decoder and decodes to itself.  This file adds the
  content rules, leaf by leaf and for the SET OF ordering, and the verbatim embedding of
  caller-supplied DER; then, for whole artefacts, that every certificate, CRL, request and
  exported key passes the checker of Spec/X509.lean (`cert_is_canonical` and the three after it);
  two more leaf rules (`oid_minimal`, `key_usage_canonical`) stand after those.
-/
namespace Rcgen.Theorems.C04
open Rcgen.Model Rcgen.Spec

/-- strict TLV layer: whatever tree a writer produces, its encoding is accepted by the strict
    DER decoder, with nothing left over, and decodes to the same tree -/
theorem emitted_tlv_strict (t : Asn1) (h : t.WF) : decodeAll (encode t) = some t :=
  decodeAll_encode t h

theorem stripZeros_head (bs : Bytes) : ∀ b r, stripZeros bs = b :: r → b ≠ 0 :=
  Proofs.Canon.stripZeros_head bs

/-- INTEGERs from byte strings (serial numbers, CRL numbers, revoked serials) are minimal:
    no redundant leading 00, whatever leading zeros / high bit / emptiness the caller passed -/
theorem int_content_minimal (bs : Bytes) : intMinimal (intContentOfBytes bs) = true :=
  Proofs.Canon.intMinimal_ofBytes bs

theorem bytesLe_refl (a : Bytes) : bytesLe a a = true :=
  (Proofs.Canon.bytesLe_iff a a).2 (List.le_refl a)

theorem bytesLe_total (a b : Bytes) : (bytesLe a b || bytesLe b a) = true :=
  Proofs.Canon.bytesLe_total a b

theorem bytesLe_trans (a b c : Bytes) (h1 : bytesLe a b = true) (h2 : bytesLe b c = true) :
    bytesLe a c = true := Proofs.Canon.bytesLe_trans a b c h1 h2

theorem sortedBy_of_pairwise (l : List Bytes)
    (h : l.Pairwise (fun a b => bytesLe a b = true)) : sortedBy bytesLe l = true :=
  Proofs.Canon.sortedBy_of_pairwise l h

/-- **SET OF is sorted**: for every list of attributes (any order, duplicates, any count) the
    elements of the CSR attribute set are emitted in ascending order of their encodings -/
theorem set_of_sorted (kids : List Asn1) :
    sortedBy bytesLe ((sortByEncoding kids).map encode) = true := Proofs.Canon.set_of_sorted kids

/-- and nothing is lost or invented by the sort -/
theorem set_of_perm (kids : List Asn1) : (sortByEncoding kids).Perm kids :=
  List.mergeSort_perm _ _

/-- whole-octet BIT STRINGs (keys, signatures): zero unused bits -/
theorem bit_string_octets_canonical (bs : Bytes) :
    bitStringCanonical (bitStringContent bs (8 * bs.length)) = true :=
  Proofs.Canon.bitStringCanonical_content bs _ (by omega)

/-- BOOLEAN TRUE is written as FF, and FALSE is never written where it is the DEFAULT:
    `critical` only when true, `cA` only when true -/
theorem booleans_canonical :
    Asn1.bool true = .prim 0 1 [255] ∧
    (∀ oid v, extNode oid false v = .cons 0 16 [.oid oid, .octets v]) ∧
    (∀ H p s, p.isCa = .explicitNoCa →
      ∃ ski, caExts H p s = [ski, extOf [2, 5, 29, 19] true (.cons 0 16 [])]) := by
  refine ⟨rfl, fun _ _ => rfl, ?_⟩
  intro H p s h
  unfold caExts; rw [h]; exact ⟨_, rfl⟩

/-- time strings are in the exact RFC 5280 forms (they parse under the strict parsers) -/
theorem time_canonical (dt : DateTime) (hy : 0 ≤ C09.utcYear dt ∧ C09.utcYear dt ≤ 9999) :
    canonical (writeTime dt) = true :=
  Proofs.Canon.canonical_of_asTime (C09.time_same_instant dt hy)

/-- caller-supplied pre-encoded DER is embedded byte for byte: custom extension content is the
    content of the extension's OCTET STRING; CSR attribute values are spliced in unchanged -/
theorem raw_passthrough (e : CustomExtension) (a : Attribute) :
    customExtNode e = .cons 0 16 (.oid e.oid :: ((if e.critical then [Asn1.bool true] else []) ++
      [.prim 0 4 e.content])) ∧
    encode (attrNode a) =
      identByte 0 true 16 :: (encLen (encode (Asn1.oid a.oid) ++ a.values).length ++
        (encode (Asn1.oid a.oid) ++ a.values)) := by
  constructor
  · rfl
  · simp [attrNode, Asn1.seq, encode, encodeList]

/-- KeyUsage named-bit lists are minimal for all 512 subsets: `C02.key_usage_bits_all_subsets` -/
theorem key_usage_minimal :
    (List.range 512).all (fun m => m == 0 ||
      (match keyUsageValue (C02.kuSubset m) with
       | .prim 0 3 c => namedBitsMinimal c
       | _ => false)) = true :=
  List.all_eq_true.2 fun m hm => by
    have h := List.all_eq_true.1 C02.key_usage_bits_all_subsets m hm
    rw [Bool.or_eq_true] at h ⊢
    exact h.imp_right fun h => (Bool.and_eq_true_iff.1 h).2

/-- what the string types guarantee (C13: their constructors accept exactly these alphabets):
    every attribute value lies in the alphabet of the tag it is written under -/
abbrev nameCanon := Proofs.Canon.nameCanon
abbrev paramsCanon := Proofs.Canon.paramsCanon

/-- the alphabet hypothesis of the theorems below is what the string-type constructors
    establish (C13): a value any of them accepts lies in the X.680 alphabet of the tag it is
    written under; and the UTF-8 bytes of any text (Rust's `String`) are well-formed UTF-8 —
    no overlong form, no surrogate, nothing above U+10FFFF (`Proofs.Utf8`). -/
theorem constructed_values_in_alphabet :
    (∀ s b, printableCtor s = some b → Proofs.Canon.valueCanon (.printable b) = true) ∧
    (∀ s b, ia5Ctor s = some b → Proofs.Canon.valueCanon (.ia5 b) = true) ∧
    (∀ s b, teletexCtor s = some b → Proofs.Canon.valueCanon (.teletex b) = true) ∧
    (∀ b b', bmpFromUtf16be b = some b' → Proofs.Canon.valueCanon (.bmp b') = true) ∧
    (∀ b b', universalFromUtf32be b = some b' → Proofs.Canon.valueCanon (.universal b') = true) ∧
    (∀ s : List Char, Proofs.Canon.valueCanon (.utf8 (utf8 s)) = true) :=
  ⟨fun _ _ => all_of_guard, fun _ _ => all_of_guard, fun _ _ => all_of_guard,
   fun b b' h => by
     cases C13.bmp_bytes_stored b b' h
     exact Proofs.Alphabets.pairsOk_of_units b ((C13.bmp_bytes_accepts_iff b).1 (by rw [h]; rfl)),
   fun b b' h => by
     cases C13.universal_bytes_stored b b' h
     exact Proofs.Alphabets.quadsOk_of_words b ((C13.universal_bytes_accepts_iff b).1 (by rw [h]; rfl)),
   Proofs.Utf8.utf8Valid_utf8⟩

/-- **every certificate is canonical DER, outermost element to the inside of every extension
    value**: for every parameter set with which generation succeeds, every key, issuer, hash
    family and signature, the signed certificate passes the whole-artefact checker
    `Spec.certCanonical` — strict TLV (definite minimal lengths, no trailing bytes), minimal
    INTEGERs and OIDs, TRUE as FF, DEFAULT FALSE absent (critical, cA), BIT STRING padding zero
    and the key-usage named-bit list minimal for every list of usages, single-valued RDN SETs,
    strings within the alphabet of their tag, time values in the RFC 5280 form and choice, and
    every known extension's value itself canonical.  Caller-supplied extensions are carried
    under identifiers the checker does not open. -/
theorem cert_is_canonical (i : Spec.CertInputs) (sig : Bytes)
    (hinv : certInvalid i.p i.issuer = none)
    (hnp : certPanics i.p i.issuer = false)
    (hcu : ∀ e ∈ i.p.customExts, e.oid ∉ Proofs.X509.knownOids)
    (hcanon : paramsCanon i.p i.issuer = true)
    (hsize : (encode (Proofs.Canon.signedCert i sig)).length < 256 ^ 126) :
    certCanonical (encode (Proofs.Canon.signedCert i sig)) = true :=
  Proofs.Canon.cert_canonical i sig hinv hnp hcu hcanon hsize

/-- **every CRL is canonical DER**, entries and both extension levels included -/
theorem crl_is_canonical (i : Spec.CrlInputs) (sig : Bytes)
    (hinv : crlInvalid i.p i.issuer = none)
    (hnp : crlPanics i.p i.issuer = false)
    (hcanon : nameCanon i.issuer.dn = true)
    (hsize : (encode (Proofs.Canon.signedCrl i sig)).length < 256 ^ 126) :
    crlCanonical (encode (Proofs.Canon.signedCrl i sig)) = true :=
  -- `hnp` is not needed: what the proof would use of it is established by the validation `hinv`
  Proofs.Canon.crl_canonical i sig hinv hcanon hsize

/-- **every CSR is canonical DER**: the attribute SET OF is sorted for every attribute list,
    the extension request is canonical, and caller-supplied attribute values — embedded byte
    for byte — are as canonical as the caller made them -/
theorem csr_is_canonical (i : Spec.CsrInputs) (vals : Attribute → Asn1) (sig : Bytes)
    (hv : Proofs.CsrDecode.ValuesAreDer i.attrs vals)
    (hvc : ∀ a ∈ i.attrs, canonical (vals a) = true)
    (hne : ∀ a ∈ i.attrs, a.oid ≠ [1, 2, 840, 113549, 1, 9, 14])
    (hun : csrUnsupported i.p = false)
    (hnp : csrPanics i.p i.attrs = false)
    (hcu : ∀ e ∈ i.p.customExts, e.oid ∉ Proofs.X509.knownOids)
    (hcanon : nameCanon i.p.dn = true) (hsan : i.p.sans.all Proofs.Canon.sanCanon = true)
    (hsize : (encode (Proofs.Canon.Csr.signedCsr i sig)).length < 256 ^ 126) :
    csrCanonical (encode (Proofs.Canon.Csr.signedCsr i sig)) = true :=
  -- `hun` is not needed: the fields it rules out are not written into a request
  Proofs.Canon.Csr.csr_canonical i vals sig hv hvc hne hnp hcu hcanon hsan hsize

/-- the exported SubjectPublicKeyInfo is canonical DER for every algorithm and key -/
theorem spki_is_canonical (k : PubKey) (hsize : (spkiDer k).length < 256 ^ 126) :
    spkiCanonical (spkiDer k) = true := by
  unfold spkiCanonical spkiDer
  rw [decodeAll_encode_of_tagsOk _ (Proofs.CertDecode.tagsOk_spki k) hsize]
  exact Proofs.Canon.canonical_spki k

/-- OBJECT IDENTIFIERs are minimal for every component list the writer accepts -/
theorem oid_minimal (arcs : List Nat) (h : oidOk arcs = true) :
    oidMinimal (oidContent arcs) = true := Proofs.Leaf.oidMinimal_oidContent arcs h

/-- the KeyUsage BIT STRING is canonical and its named-bit list minimal for *every* list of
    usages -/
theorem key_usage_canonical (kus : List KeyUsage) (hne : kus ≠ []) :
    canonical (keyUsageValue kus) = true ∧ kuValueOk (keyUsageValue kus) = true :=
  ⟨Proofs.Canon.canonical_kuValue kus, Proofs.Canon.kuValueOk_value kus hne⟩

/-! non-vacuity: the certificate of the C02 example meets the alphabet and size hypotheses of
    `cert_is_canonical` -/
example : paramsCanon C02.exInputs.p C02.exInputs.issuer = true := by decide +kernel
example : (encode (Proofs.Canon.signedCert C02.exInputs [1, 2, 3])).length < 256 ^ 126 := by
  decide +kernel

example : intContentOfBytes [0, 0, 0x80, 1] = [0, 0x80, 1] := by decide
example : sortedBy bytesLe ((sortByEncoding [.octets [2], .octets [1], .null]).map encode) = true :=
  set_of_sorted _

end Rcgen.Theorems.C04
