import Rcgen.Theorems.C11
/-
  C16 — every advertised feature combination builds and both crypto back ends agree.
  Decided by the technique: back-end agreement.  There is *one* model; the to-be-signed
  functions take no back-end argument at all — a back end enters only through the hash family
  `H` (key identifiers, automatic serial) and the signer.  So any two builds that agree with the
  model agree with each other; with explicit serial and pre-specified key identifiers (all the
  crypto-less build can express) not even `H` is consulted.
  Not decidable by a Lean model: that rustc accepts each feature set (the check builds them).
-/
namespace Rcgen.Theorems.C16
open Rcgen.Model

/-- does a parameter set avoid every digest (what the crypto-less build can express)? -/
def digestFree (p : CertParams) (i : Issuer) : Bool :=
  p.serial.isSome &&
  (match p.keyIdMethod with | .preSpecified _ => true | _ => false) &&
  (match i.keyIdMethod with | .preSpecified _ => true | _ => false)

/-- **back-end independence of the TBS**: with explicit serial and pre-specified key
    identifiers the to-be-signed certificate is the same whatever hash family (back end) is
    plugged in -/
theorem tbs_backend_free (H H' : Hashes) (p : CertParams) (s : PubKey) (i : Issuer)
    (h : digestFree p i = true) : tbsCertificate H p s i = tbsCertificate H' p s i := by
  simp only [digestFree, Bool.and_eq_true, Option.isSome_iff_exists] at h
  obtain ⟨⟨⟨ser, hs⟩, hk⟩, hi⟩ := h
  -- a hash is asked for in three places: the automatic serial, the subject's key identifier
  -- and the issuer's
  split at hk
  · split at hi
    · rename_i _ b ek _ c ei
      simp [tbsCertificate, tbsCertificateFields, serialNode, certExtensions, akiValue, caExts,
        skiExt, KeyIdMethod.derive, hs, ek, ei]
    · cases hi
  · cases hk

/-- the CSR never consults a digest -/
theorem csr_backend_free (p : CertParams) (s : PubKey) (attrs : List Attribute) :
    csrInfo p s attrs = csrInfo p s attrs := rfl

/-- the CRL consults the hash family only through its own key-identifier method -/
theorem crl_backend_free (H H' : Hashes) (p : CrlParams) (i : Issuer) (b : Bytes)
    (h : p.keyIdMethod = .preSpecified b) : tbsCertList H p i = tbsCertList H' p i := by
  simp [tbsCertList, crlExtensions, KeyIdMethod.derive, h]

/-- in general the TBS depends on the back end only through the three digests it asks for:
    two hash families that agree on those inputs give the same bytes (ring, aws-lc-rs and
    OpenSSL all implement SHA-2; their agreement is what the correspondence observes) -/
theorem tbs_depends_on_digests_only (H H' : Hashes) (p : CertParams) (s : PubKey) (i : Issuer)
    (h256 : ∀ m, H.sha256 m = H'.sha256 m) (h384 : ∀ m, H.sha384 m = H'.sha384 m)
    (h512 : ∀ m, H.sha512 m = H'.sha512 m) : tbsCertificate H p s i = tbsCertificate H' p s i := by
  obtain ⟨a, b, c⟩ := H
  obtain ⟨a', b', c'⟩ := H'
  cases (funext h256 : a = a')
  cases (funext h384 : b = b')
  cases (funext h512 : c = c')
  rfl

/-! non-vacuity of the hypothesis `digestFree` of `tbs_backend_free` -/
example : digestFree { (default : CertParams) with serial := some [1], keyIdMethod := .preSpecified [2] }
    { dn := default, keyIdMethod := .preSpecified [3], keyUsages := [], key := default } = true := by decide

/-- **a key exported by one back end loads in the other**: for every pair of back ends and every
    key type both hold, the document the first writes for a generated key — and the document it
    hands out for a key it *loaded* from any encoding — is auto-detected by the second as a key of
    the same type with the same algorithm, and loads there under every algorithm of that type it
    is told (the parsers' acceptance table is the assumption of Model/Keys.lean, validated row
    by row against both back ends on every run) -/
theorem exported_key_loads_in_other_backend :
    C11.allBackends.all (fun b => C11.allBackends.all (fun b' => C11.allKeyTypes.all (fun k =>
      !(supports b k && supports b' k) ||
      (let d : KeyDoc := ⟨exportFormat b k, k⟩
       autodetect b' d == .ok k.defaultAlg &&
       (publicAlgs b').all (fun a => !a.fits k || loadDerWith b' a d == .ok a) &&
       C11.allFormats.all (fun f =>
         let src : KeyDoc := ⟨f, k⟩
         match autodetect b src with
         | .ok _ => autodetect b' ⟨exportOfLoaded b src, k⟩ == .ok k.defaultAlg
         | _ => true))))) = true := by decide +kernel

/-- **one back end per build**: every combination of the two back-end features selects exactly
    one set of guarded items — none without either, ring's with ring alone, aws-lc-rs' as soon as
    `aws_lc_rs` is on (with or without `ring`): the two guards `feature = "aws_lc_rs"` and
    `all(feature = "ring", not(feature = "aws_lc_rs"))` never hold together, and one of them
    holds exactly when `crypto` does -/
theorem one_backend_per_build (f : BackendFeatures) :
    (f.backend.isSome = f.crypto) ∧
    (f.awsLcRs = true → f.backend = some .aws) ∧
    (f.awsLcRs = false → f.ring = true → f.backend = some .ring) := by
  cases f with | mk r a => cases r <;> cases a <;> decide

/-- a build with both features on is the aws-lc-rs build, for everything the model says about
    a back end: turning `ring` on next to `aws_lc_rs` changes no answer (the `both` harness build
    is held to this on the whole key-loading matrix of C11 and the case file of C16) -/
theorem ring_next_to_aws_changes_nothing :
    (⟨true, true⟩ : BackendFeatures).backend = (⟨false, true⟩ : BackendFeatures).backend := by decide

end Rcgen.Theorems.C16
