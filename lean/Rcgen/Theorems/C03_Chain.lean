import Rcgen.Theorems.C03
import Rcgen.Proofs.Validate
import Rcgen.Theorems.C11
/-
  C03, second part (it needs the RFC 5280 §6.1 validator and the decoded-certificate record of
  C02/C12, which sit above Theorems/C03.lean in the import graph; same namespace).

  The issuer certificate is *any* decoded certificate content `c` — what an OpenSSL-made CA, a
  hand-built one, or one of rcgen's own decodes to — that `from_ca_cert_der`'s glue accepts.
  Proved: everything issued from the imported parameters names `c`'s subject as its issuer and
  carries `c`'s subject key identifier as authority key identifier; and the path validator, run
  on `c` and on what the issued certificate decodes to, never rejects for a reason rcgen is
  responsible for — its verdict is exactly the conjunction of the conditions the property
  names (the issuer is a CA that may sign, the windows cover the time, the leaf's own purposes
  and the CA's name constraints admit it).  Last, `issued_to_public_key_alone`: issuing to the
  SubjectPublicKeyInfo a key exports is issuing to the key (on C11's `spki_import_of_export`,
  hence the import of Theorems/C11.lean).
  Proofs/ImportDecode.lean imports this file, so it must not import that module or anything
  above it.
-/
namespace Rcgen.Theorems.C03
open Rcgen.Model Rcgen.Spec Rcgen.Proofs.CertDecode Rcgen.Proofs.Validate

/-- what the import glue returns carries the name and key identifier it read -/
theorem importCa_name_and_kid (crypto : Bool) (c : TbsCert) (p' : CertParams)
    (h : importCa crypto c = .ok p') :
    importName c.subject = .ok p'.dn ∧ importKid crypto c = .ok p'.keyIdMethod := by
  unfold importCa at h
  -- the name is the first thing bound, the key identifier the last
  obtain ⟨dn, h1, h⟩ := Proofs.bind_ok h
  obtain ⟨_, _, h⟩ := Proofs.bind_ok h
  obtain ⟨_, _, h⟩ := Proofs.bind_ok h
  obtain ⟨_, _, h⟩ := Proofs.bind_ok h
  obtain ⟨_, _, h⟩ := Proofs.bind_ok h
  obtain ⟨_, _, h⟩ := Proofs.bind_ok h
  obtain ⟨_, _, h⟩ := Proofs.bind_ok h
  obtain ⟨_, _, h⟩ := Proofs.bind_ok h
  obtain ⟨_, _, h⟩ := Proofs.bind_ok h
  obtain ⟨kid, h5, h⟩ := Proofs.bind_ok h
  cases h
  exact ⟨h1, h5⟩

/-- **issuer name through any import**: for every decoded CA certificate `c` the import accepts
    — whoever made it — a certificate issued from the imported parameters decodes to an issuer
    field equal to `c`'s subject: same RDNs, attribute types, string kinds, values, order -/
theorem issued_from_any_import_names_issuer (crypto : Bool) (c : TbsCert) (p' : CertParams)
    (h : importCa crypto c = .ok p') (leaf : CertParams) (leafKey caKey : PubKey) (H : Hashes) :
    (modelTbs ⟨H, leaf, leafKey, issuerOf ⟨p', caKey⟩⟩).issuer = c.subject :=
  import_preserves_or_fails c.subject p'.dn (importCa_name_and_kid crypto c p' h).1

/-- **authority key identifier through any import**: when `c` carries a subject key identifier
    `b`, the key identifier written into everything issued from the import is `b` -/
theorem aki_from_any_import_is_ski (crypto : Bool) (c : TbsCert) (p' : CertParams)
    (h : importCa crypto c = .ok p') (b : Bytes) (rest : List Bytes)
    (hski : c.exts.filterMap skiOf = b :: rest) (caKey : PubKey) (H : Hashes) :
    akiValue H (issuerOf ⟨p', caKey⟩) = b := by
  have hk := (importCa_name_and_kid crypto c p' h).2
  rw [import_captures_ski crypto c b rest hski] at hk
  injection hk with hk
  simp [akiValue, issuerOf, ← hk]

/-- **the validator's verdict on (imported CA, issued certificate)** is the conjunction of the
    conditions C03 names and nothing else: name chaining — the one clause rcgen is responsible
    for — always holds -/
theorem imported_chain_verdict (crypto ac kc : Bool) (c : TbsCert) (p' : CertParams)
    (h : importCa crypto c = .ok p') (leaf : CertParams) (leafKey caKey : PubKey) (H : Hashes)
    (hcust : ∀ e ∈ leaf.customExts, e.oid ∉ Proofs.X509.knownOids) (t : Int) (u : Purpose) :
    validate ac kc [c, modelTbs ⟨H, leaf, leafKey, issuerOf ⟨p', caKey⟩⟩] t u =
      (pTimeValid leaf t && pEkuAllows leaf u &&
       ((!ac || (isCaCert c && (!kc || mayCertSign c) && timeValid c t)) &&
        ncAllowsLeaf c (modelTbs ⟨H, leaf, leafKey, issuerOf ⟨p', caKey⟩⟩))) := by
  rw [validate_pair, issued_from_any_import_names_issuer crypto c p' h leaf leafKey caKey H,
    beq_self_eq_true, Bool.true_and, timeValid_model, ekuAllows_model _ hcust]

/-- **chain accepted**: whenever the imported issuer is a CA allowed to sign, both windows cover
    the verification time, the leaf's purposes admit the use and the CA's name constraints the
    leaf's names, the validator accepts — under both validator profiles -/
theorem imported_chain_accepted (crypto ac kc : Bool) (c : TbsCert) (p' : CertParams)
    (h : importCa crypto c = .ok p') (leaf : CertParams) (leafKey caKey : PubKey) (H : Hashes)
    (hcust : ∀ e ∈ leaf.customExts, e.oid ∉ Proofs.X509.knownOids) (t : Int) (u : Purpose)
    (hca : isCaCert c = true) (hku : mayCertSign c = true) (htc : timeValid c t = true)
    (htl : pTimeValid leaf t = true) (heku : pEkuAllows leaf u = true)
    (hnc : ncAllowsLeaf c (modelTbs ⟨H, leaf, leafKey, issuerOf ⟨p', caKey⟩⟩) = true) :
    validate ac kc [c, modelTbs ⟨H, leaf, leafKey, issuerOf ⟨p', caKey⟩⟩] t u = true := by
  rw [imported_chain_verdict crypto ac kc c p' h leaf leafKey caKey H hcust t u]
  simp [hca, hku, htc, htl, heku, hnc]

/-- … and rejected when the issuer is not a CA (checked anchors), or a window does not cover the
    time -/
theorem imported_chain_rejected (crypto kc : Bool) (c : TbsCert) (p' : CertParams)
    (h : importCa crypto c = .ok p') (leaf : CertParams) (leafKey caKey : PubKey) (H : Hashes)
    (hcust : ∀ e ∈ leaf.customExts, e.oid ∉ Proofs.X509.knownOids) (t : Int) (u : Purpose)
    (hbad : isCaCert c = false ∨ timeValid c t = false ∨ pTimeValid leaf t = false) :
    validate true kc [c, modelTbs ⟨H, leaf, leafKey, issuerOf ⟨p', caKey⟩⟩] t u = false := by
  rw [imported_chain_verdict crypto true kc c p' h leaf leafKey caKey H hcust t u]
  rcases hbad with hb | hb | hb <;> simp [hb]

/-- **a certificate issued to a public key alone is the certificate issued to the key pair**: for
    every key of every algorithm of the build, parameters and issuer, issuing to what
    `SubjectPublicKeyInfo::from_der` makes of the key's exported SubjectPublicKeyInfo gives the
    same to-be-signed certificate — same SubjectPublicKeyInfo, same subject key identifier (the
    configured digest of it), same automatic serial — as issuing to the key.  So a CA certified
    for its public key alone carries the subject key identifier its own issuances will name. -/
theorem issued_to_public_key_alone (b : Backend) (H : Hashes) (p : CertParams) (k k' : PubKey)
    (i : Issuer) (ha : k.alg ∈ publicAlgs b) (hl : (encode (spkiNode k)).length < 256 ^ 126)
    (h : spkiFromDer b (spkiDer k) = some k') :
    tbsCertificate H p k' i = tbsCertificate H p k i := by
  obtain ⟨a, h1, h2, _⟩ := C11.spki_import_of_export b k ha hl
  rw [h1] at h
  cases h
  have hn : spkiNode ⟨a, k.raw⟩ = spkiNode k := by simp [spkiNode, h2]
  have hd : spkiDer ⟨a, k.raw⟩ = spkiDer k := by simp [spkiDer, hn]
  simp only [tbsCertificate, tbsCertificateFields, certExtensions, caExts, skiExt, serialNode,
    autoSerialBytes, hn, hd]

/-! non-vacuity: a CA content with two RDNs, basicConstraints cA, an SKI — imports, and the
    chain to a default leaf is accepted in 2025 -/
def exCa : TbsCert :=
  { version := 2, serial := 7, sigAlg := [], issuer := [[⟨[2,5,4,3], 12, [97]⟩]],
    notBefore := (.utc, 1577836800), notAfter := (.utc, 1893456000),
    subject := [[⟨[2,5,4,10], 19, [66]⟩], [⟨[2,5,4,3], 12, [97]⟩]], spki := [],
    exts := [⟨[2,5,29,19], true, .basicConstraints true none⟩, ⟨[2,5,29,14], false, .ski [1,2,3]⟩] }

example : ∃ p', importCa true exCa = .ok p' ∧ p'.keyIdMethod = .preSpecified [1,2,3] :=
  ⟨_, rfl, rfl⟩
example : isCaCert exCa = true ∧ mayCertSign exCa = true ∧ timeValid exCa 1748736000 = true := by
  decide

end Rcgen.Theorems.C03
