import Rcgen.Proofs.Pem
import Rcgen.Proofs.PemParse
/-
  C14 — PEM output is a faithful RFC 7468 envelope of the DER.
  Model: `pemEncode` (Model/Pem.lean) = pem 3.0.5 `encode_config` as rcgen configures it.
  Spec: `Spec.pemDecode`, a strict RFC 7468 decoder written independently.
-/
namespace Rcgen.Theorems.C14
open Rcgen.Model Rcgen.Spec

theorem bodyShape_eq (l : List Bytes) : bodyShape l = shapeOk 64 l := bodyShape_eq_shapeOk l

theorem header_lines (k : PemKind) :
    stripLine Spec.beginPrefix (Model.beginPrefix ++ k.label ++ Model.dashes) = some k.label ∧
    stripLine Spec.endPrefix (Model.endPrefix ++ k.label ++ Model.dashes) = some k.label ∧
    (∀ x ∈ Model.beginPrefix ++ k.label ++ Model.dashes, x ≠ 10) ∧
    (∀ x ∈ Model.endPrefix ++ k.label ++ Model.dashes, x ≠ 10) :=
  have hl := (label_ok k).2.1
  ⟨stripLine_wrap _ _, stripLine_wrap _ _, wrap_no_lf _ _ (by decide) hl, wrap_no_lf _ _ (by decide) hl⟩

/-- **strict round trip**: for each of the five artefact kinds and DER of any length, the text
    rcgen emits decodes under the strict RFC 7468 decoder to exactly (label, DER): right
    BEGIN/END lines, lines of 64 except the last, canonical padding, LF endings, nothing else -/
theorem pem_strict_roundtrip (k : PemKind) (der : Bytes) :
    pemDecode (pemEncode k.label der) = some (k.label, der) :=
  pemDecode_pemEncode k.label der (label_ok k).2.1

/-- **the private-key text is the envelope of the DER accessor, or there is neither**: whatever
    `serialize_pem` returns decodes strictly to ("PRIVATE KEY", what `serialize_der` returns), and
    it returns nothing exactly when `serialize_der` does not (a key held by a remote signer: both
    panic) — never an envelope around bytes the DER accessor would not hand out -/
theorem private_key_text_wraps_der_accessor (k : KeyHolder) :
    (∀ t, k.serializePem = some t →
      ∃ d, k.serializeDer = some d ∧ pemDecode t = some (PemKind.privateKey.label, d)) ∧
    (k.serializePem = none ↔ k.serializeDer = none) := by
  cases k with
  | held doc =>
    refine ⟨fun t ht => ⟨doc, rfl, ?_⟩, iff_of_false nofun nofun⟩
    cases ht
    exact pem_strict_roundtrip .privateKey doc
  | remote => exact ⟨nofun, iff_of_true rfl rfl⟩

example : (KeyHolder.held [48, 3, 2, 1, 0]).serializePem.isSome = true ∧
    KeyHolder.remote.serializePem = none := by decide

/-- base64 lines have exactly 64 characters except the last, which has 1..64 -/
theorem pem_lines_64 (der : Bytes) : shapeOk 64 (chunks 64 (b64Encode der)) = true :=
  chunks_shape (by decide) _

def ofChars (cs : List Char) : Bytes := cs.map (fun c => UInt8.ofNat c.toNat)

/-- the label of each kind is the RFC 7468 one (§5 CERTIFICATE, §7 CERTIFICATE REQUEST,
    §6 X509 CRL, §10 PRIVATE KEY, §13 PUBLIC KEY) -/
theorem label_of_kind :
    PemKind.certificate.label = ofChars ['C', 'E', 'R', 'T', 'I', 'F', 'I', 'C', 'A', 'T', 'E'] ∧
    PemKind.request.label = ofChars ['C', 'E', 'R', 'T', 'I', 'F', 'I', 'C', 'A', 'T', 'E', ' ', 'R', 'E', 'Q', 'U', 'E', 'S', 'T'] ∧
    PemKind.crl.label = ofChars ['X', '5', '0', '9', ' ', 'C', 'R', 'L'] ∧
    PemKind.privateKey.label = ofChars ['P', 'R', 'I', 'V', 'A', 'T', 'E', ' ', 'K', 'E', 'Y'] ∧
    PemKind.publicKey.label = ofChars ['P', 'U', 'B', 'L', 'I', 'C', ' ', 'K', 'E', 'Y'] := by decide

/-- an empty body produces no body line at all -/
theorem pem_empty (k : PemKind) :
    pemEncode k.label [] = Model.beginPrefix ++ k.label ++ Model.dashes ++ [10] ++
      (Model.endPrefix ++ k.label ++ Model.dashes ++ [10]) := by
  simp [pemEncode, chunks, chunksAux, b64Encode]

/-! `pem_strict_roundtrip` on a body of four octets -/
example : pemDecode (pemEncode PemKind.crl.label [1, 2, 3, 4]) = some (PemKind.crl.label, [1, 2, 3, 4]) :=
  pem_strict_roundtrip _ _

/-- **rcgen's own PEM loaders accept that text and recover the same bytes**: the reader behind
    `KeyPair::from_pem`, `from_ca_cert_pem`, `CertificateSigningRequestParams::from_pem` and
    `SubjectPublicKeyInfo::from_pem` (pem 3.0.5 `parse`, Model/PemParse.lean) applied to the text
    rcgen writes for any of the five kinds returns that kind's label and exactly the bytes that
    were wrapped — for byte strings of every length, the empty one included -/
theorem own_loader_reads_own_text (k : PemKind) (der : Bytes) :
    pemParse (pemEncode k.label der) = .ok (k.label, der) :=
  Proofs.PemParse.pemParse_pemEncode k.label der (label_ok k).1 (label_ok k).2.2

/-- … and so for any label that is not empty and holds no `-` -/
theorem lenient_reader_inverts_encoder (label der : Bytes) (hne : label ≠ [])
    (hl : ∀ x ∈ label, x ≠ 45) : pemParse (pemEncode label der) = .ok (label, der) :=
  Proofs.PemParse.pemParse_pemEncode label der hne hl

example : (match pemParse (pemEncode PemKind.crl.label [1, 2, 3, 4]) with
    | .ok (l, d) => l == PemKind.crl.label && d == [1, 2, 3, 4]
    | .error _ => false) = true := by decide +kernel

end Rcgen.Theorems.C14
