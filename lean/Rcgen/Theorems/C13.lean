import Rcgen.Proofs.Strings
import Rcgen.Model.Cert
/-
  C13 — ASN.1 string types admit exactly their alphabet and encode losslessly.
  Model: Model/Strings.lean (string.rs constructors).  Spec: the alphabets of X.680 §41 as
  predicates on scalar values, and the transfer decodings (identity on ASCII, UTF-16BE, UTF-32BE).
  Proofs/ImportSucceeds.lean and Theorems/C03.lean import this file, so it must not import them,
  the proof modules that import C03, or anything above those.
-/
namespace Rcgen.Theorems.C13
open Rcgen.Model

/-! ### the alphabets, as the property states them -/

/-- letters, digits, space and `'()+,-./:=?` -/
def alphaPrintable (c : Char) : Prop :=
  let v := c.val.toNat
  (65 ≤ v ∧ v ≤ 90) ∨ (97 ≤ v ∧ v ≤ 122) ∨ (48 ≤ v ∧ v ≤ 57) ∨ v = 32 ∨ v = 39 ∨ v = 40 ∨
  v = 41 ∨ v = 43 ∨ v = 44 ∨ v = 45 ∨ v = 46 ∨ v = 47 ∨ v = 58 ∨ v = 61 ∨ v = 63

/-- U+0000..U+007F -/
def alphaIa5 (c : Char) : Prop := c.val.toNat ≤ 127
/-- U+0020..U+007F -/
def alphaTeletex (c : Char) : Prop := 32 ≤ c.val.toNat ∧ c.val.toNat ≤ 127
/-- U+0000..U+FFFE (as text it cannot contain surrogates) -/
def alphaBmp (c : Char) : Prop := c.val.toNat ≤ 65534

/-- the code points of a text as single octets (transfer encoding of the three ASCII types) -/
def octetsOf (s : List Char) : Bytes := s.map (fun c => UInt8.ofNat c.val.toNat)

theorem ofNat_toNat_small (v : Nat) (h : v ≤ 127) : (UInt8.ofNat v).toNat = v :=
  toNat_ofNat_lt (by omega)

theorem printableByte_ascii (b : UInt8) (h : printableByte b = true) : b.toNat < 128 :=
  printableVal_lt b.toNat h

theorem accepts_iff_alphabet_printable (s : List Char) :
    (printableCtor s).isSome ↔ ∀ c ∈ s, alphaPrintable c :=
  (asciiCtor_isSome printableVal printableVal_lt s).trans <| forall₂_congr fun c _ => by
    -- the same disjunction, once over `Bool` and once over `Prop`
    simp only [printableVal, alphaPrintable, Bool.or_eq_true, Bool.and_eq_true, decide_eq_true_eq,
      beq_iff_eq, or_assoc]

/-- what is stored is the text, one octet per character (so decoding returns the text) -/
theorem stored_printable (s : List Char) (b : Bytes) (h : printableCtor s = some b) :
    b = octetsOf s :=
  asciiCtor_stored printableVal printableVal_lt s b h

theorem accepts_iff_alphabet_ia5 (s : List Char) :
    (ia5Ctor s).isSome ↔ ∀ c ∈ s, alphaIa5 c :=
  (asciiCtor_isSome _ ia5Val_lt s).trans <| forall₂_congr fun c _ => by
    simp only [alphaIa5, decide_eq_true_eq, Nat.lt_succ_iff]

theorem stored_ia5 (s : List Char) (b : Bytes) (h : ia5Ctor s = some b) : b = octetsOf s :=
  asciiCtor_stored _ ia5Val_lt s b h

theorem accepts_iff_alphabet_teletex (s : List Char) :
    (teletexCtor s).isSome ↔ ∀ c ∈ s, alphaTeletex c :=
  (asciiCtor_isSome _ teletexVal_lt s).trans <| forall₂_congr fun c _ => by
    simp only [alphaTeletex, Bool.and_eq_true, decide_eq_true_eq]

theorem stored_teletex (s : List Char) (b : Bytes) (h : teletexCtor s = some b) :
    b = octetsOf s :=
  asciiCtor_stored _ teletexVal_lt s b h

theorem u32be_words (vs : List Nat) (h : ∀ v ∈ vs, v < 4294967296) :
    wordsOfBytes (vs.flatMap u32be) = vs := by
  induction vs with
  | nil => rfl
  | cons v vs ih =>
    have hv := h v List.mem_cons_self
    have m := fun n => toNat_ofNat_lt (Nat.mod_lt n (by decide : 0 < 256))
    rw [List.flatMap_cons, u32be, List.cons_append, List.cons_append, List.cons_append,
      List.cons_append, List.nil_append, wordsOfBytes, ih fun x hx => h x (List.mem_cons_of_mem _ hx),
      toNat_ofNat_lt (Nat.div_lt_of_lt_mul hv), m, m, m]
    congr 1
    omega

theorem u32be_length (vs : List Nat) : (vs.flatMap u32be).length = 4 * vs.length := by
  induction vs with
  | nil => rfl
  | cons v vs ih =>
    rw [List.flatMap_cons, List.length_append, ih, List.length_cons, Nat.mul_succ, Nat.add_comm]; rfl

/-- every text is accepted, and the stored bytes are its UTF-32BE code units -/
theorem universal_accepts_all (s : List Char) :
    universalCtor s = some (s.flatMap (fun c => u32be c.val.toNat)) ∧
    wordsOfBytes (s.flatMap (fun c => u32be c.val.toNat)) = s.map (fun c => c.val.toNat) := by
  have hw : wordsOfBytes (s.flatMap (fun c => u32be c.val.toNat)) = s.map (fun c => c.val.toNat) := by
    rw [← List.flatMap_map]
    exact u32be_words _ (List.forall_mem_map.2 fun c _ => by have := char_valid c; omega)
  refine ⟨?_, hw⟩
  have hlen : (s.flatMap (fun c => u32be c.val.toNat)).length % 4 = 0 := by
    rw [← List.flatMap_map, u32be_length, Nat.mul_mod_right]
  rw [universalCtor, universalFromUtf32be, if_neg (not_not_intro hlen), hw, if_pos]
  exact List.all_eq_true.2 (List.forall_mem_map.2 fun c _ => isScalar_char c)

/-- the byte-level constructor accepts exactly the well-formed UTF-32BE strings -/
theorem universal_bytes_accepts_iff (b : Bytes) :
    (universalFromUtf32be b).isSome ↔ (b.length % 4 = 0 ∧ ∀ v ∈ wordsOfBytes b, isScalar v = true) :=
  isSome_lenChecked.trans (and_congr_right fun _ => List.all_eq_true)

theorem universal_bytes_stored (b b' : Bytes) (h : universalFromUtf32be b = some b') : b' = b :=
  lenChecked_eq_some h

def unitOk (u : Nat) : Bool := !isSurrogate u && decide (u < 65535)

/-- `char::decode_utf16` yields only in-BMP, non-0xFFFF scalars iff every unit is a
    non-surrogate other than 0xFFFF: a surrogate, paired or not, always spoils the result -/
theorem decodeUtf16_all (us : List Nat) :
    (decodeUtf16 us).all resultOk = us.all unitOk := by
  fun_induction decodeUtf16 us with
  | case1 => rfl
  | case2 u h => simp [resultOk, unitOk, h]
  | case3 u h => simp [resultOk, unitOk, h]
  | case4 u l rest h ih =>
    simp only [List.all_cons, ih, resultOk, unitOk, h]
    simp
  | case5 u l rest h1 h2 ih =>
    have hs : isSurrogate u = true := by simpa using h1
    simp only [List.all_cons, resultOk, unitOk, hs]
    have : ¬ (65536 + (u - 55296) * 1024 + (l - 56320) < 65535) := by omega
    simp [this]
  | case6 u l rest h1 h2 ih =>
    have hs : isSurrogate u = true := by simpa using h1
    simp [List.all_cons, resultOk, unitOk, hs]

theorem bmp_bytes_accepts_iff (b : Bytes) :
    (bmpFromUtf16be b).isSome ↔
      (b.length % 2 = 0 ∧ ∀ u ∈ unitsOfBytes b, isSurrogate u = false ∧ u < 65535) :=
  isSome_lenChecked.trans <| and_congr_right fun _ => by
    simp only [decodeUtf16_all, List.all_eq_true, unitOk, Bool.and_eq_true, Bool.not_eq_true',
      decide_eq_true_eq]

theorem bmp_bytes_stored (b b' : Bytes) (h : bmpFromUtf16be b = some b') : b' = b :=
  lenChecked_eq_some h

theorem u16be_units (us : List Nat) (h : ∀ u ∈ us, u < 65536) :
    unitsOfBytes (us.flatMap u16be) = us ∧ (us.flatMap u16be).length = 2 * us.length := by
  induction us with
  | nil => exact ⟨rfl, rfl⟩
  | cons u us ih =>
    have hu := h u List.mem_cons_self
    obtain ⟨i1, i2⟩ := ih fun x hx => h x (List.mem_cons_of_mem _ hx)
    rw [List.flatMap_cons, u16be, List.cons_append, List.cons_append, List.nil_append, unitsOfBytes,
      i1, List.length_cons, List.length_cons, i2, List.length_cons,
      toNat_ofNat_lt (Nat.div_lt_of_lt_mul hu), toNat_ofNat_lt (Nat.mod_lt _ (by decide)),
      Nat.div_add_mod']
    exact ⟨rfl, by omega⟩

theorem utf16Units_lt (c : Char) : ∀ u ∈ utf16Units c, u < 65536 := by
  have hv := char_valid c
  rw [utf16Units]
  split
  · exact List.forall_mem_singleton.2 ‹_›
  · exact List.forall_mem_cons.2 ⟨by omega, List.forall_mem_singleton.2 (by omega)⟩

theorem utf16Units_ok (c : Char) : (utf16Units c).all unitOk = true ↔ alphaBmp c := by
  have hv := char_valid c
  unfold utf16Units alphaBmp
  simp only
  split <;>
  · simp only [List.all_cons, List.all_nil, Bool.and_true, unitOk, isSurrogate, Bool.and_eq_true,
      Bool.not_eq_true', decide_eq_true_eq, Bool.and_eq_false_iff, decide_eq_false_iff_not]
    omega

/-- a text is accepted iff every character is in U+0000..U+FFFE; what is stored is its UTF-16BE
    code units, which (no surrogates occurring) are the scalar values themselves -/
theorem accepts_iff_alphabet_bmp (s : List Char) :
    (bmpCtor s).isSome ↔ ∀ c ∈ s, alphaBmp c := by
  obtain ⟨e1, e2⟩ := u16be_units _ (List.forall_mem_flatMap.2 fun c _ => utf16Units_lt c)
  rw [bmpCtor, bmp_bytes_accepts_iff, e1, e2, Nat.mul_mod_right, and_iff_right rfl,
    List.forall_mem_flatMap]
  exact forall₂_congr fun c _ => by
    rw [← utf16Units_ok, List.all_eq_true]
    simp only [unitOk, Bool.and_eq_true, Bool.not_eq_true', decide_eq_true_eq]

theorem stored_bmp (s : List Char) (b : Bytes) (h : bmpCtor s = some b) (hs : ∀ c ∈ s, alphaBmp c) :
    unitsOfBytes b = s.map (fun c => c.val.toNat) := by
  cases bmp_bytes_stored _ _ h
  rw [(u16be_units _ (List.forall_mem_flatMap.2 fun c _ => utf16Units_lt c)).1, List.map_eq_flatMap,
    List.flatMap_def, List.flatMap_def]
  refine congrArg _ (List.map_congr_left fun c hc => ?_)
  rw [utf16Units, if_pos (Nat.lt_succ_of_le (Nat.le_trans (hs c hc) (by decide)))]

/-! ### every accepted value can be placed in a name and is written under its own tag -/

/-- the name writer emits each kind under its universal tag with the stored bytes as content
    (19 PrintableString, 22 IA5String, 20 TeletexString, 30 BMPString, 28 UniversalString) -/
theorem accepted_serialises_tag (b : Bytes) :
    (DnValue.printable b).node = .prim 0 19 b ∧ (DnValue.ia5 b).node = .prim 0 22 b ∧
    (DnValue.teletex b).node = .prim 0 20 b ∧ (DnValue.bmp b).node = .prim 0 30 b ∧
    (DnValue.universal b).node = .prim 0 28 b := ⟨rfl, rfl, rfl, rfl, rfl⟩

/-- no accepted value can trip the DER writer: the only string assertion left on the name
    path is IA5 = ASCII, which the IA5 constructor guarantees -/
theorem accepted_serialises_no_panic (s : List Char) (b : Bytes) :
    (printableCtor s = some b → dnValuePanics (.printable b) = false) ∧
    (ia5Ctor s = some b → dnValuePanics (.ia5 b) = false) ∧
    (teletexCtor s = some b → dnValuePanics (.teletex b) = false) ∧
    (bmpCtor s = some b → dnValuePanics (.bmp b) = false) ∧
    (universalCtor s = some b → dnValuePanics (.universal b) = false) := by
  refine ⟨fun _ => rfl, fun h => ?_, fun _ => rfl, fun _ => rfl, fun _ => rfl⟩
  exact congrArg not (all_of_guard h)

/-! non-vacuity: the constructors accept and refuse, at the edges of their alphabets -/
example : (bmpCtor ['\uFFFE']).isSome := by decide
example : ¬ (bmpCtor ['\uFFFF']).isSome := by decide
example : ¬ (bmpFromUtf16be [0xD8, 0x00, 0xDC, 0x00]).isSome := by decide
example : (printableCtor ['a', '?']).isSome := by decide
example : ¬ (printableCtor ['a', '*']).isSome := by decide
example : ia5Ctor ['\x7f'] = some [127] := by decide
example : universalCtor ['😀'] = some [0, 1, 246, 0] := by decide

end Rcgen.Theorems.C13
