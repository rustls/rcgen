import Rcgen.Proofs.CsrIssue
import Rcgen.Proofs.Canon
import Rcgen.Model.CsrVerify
/-
  C06 — CSR acceptance is sound and issuance binds the requester's key.
  Model: `parseCsr` (Model/CsrParse.lean) = csr.rs `from_der` after the third-party parse; the
  signature check is an abstract `verify spki info alg sig`.  Unforgeability ("every
  modification is rejected") is cryptography: sampled by the mutation sweep, not proved.
-/
namespace Rcgen.Theorems.C06
open Rcgen.Model Rcgen.Spec

/-- what acceptance of a request establishes, read off the parser's own steps
    (`Proofs.CsrAccept.Accepted`: the split, the decoded info, the verifier's verdict, the
    algorithms, the imported name, the paired-up extensions, the loop's result, the
    SubjectPublicKeyInfo comparison) -/
abbrev Accepted := Proofs.CsrAccept.Accepted

/-- every accepted request went through every gate of `from_der` -/
theorem accepted_steps (p521 crypto : Bool) (verify : Bytes → Bytes → Bytes → Bytes → Bool)
    (der : Bytes) (r : CsrParsed) (h : parseCsr p521 crypto verify der = .ok r) :
    Nonempty (Accepted p521 crypto verify der r) :=
  Proofs.CsrAccept.accepted_steps p521 crypto verify der r h

/-- **acceptance implies verification**: a request is accepted only if `verify` succeeded on
    the embedded SubjectPublicKeyInfo, the exact certificationRequestInfo bytes of the input,
    the outer algorithm and the signature bits of the input -/
theorem accept_implies_verified (p521 crypto : Bool) (verify : Bytes → Bytes → Bytes → Bytes → Bool)
    (der : Bytes) (r : CsrParsed) (h : parseCsr p521 crypto verify der = .ok r) :
    ∃ info alg sig i, splitSigned der = some (info, alg, sig) ∧ decodeCsrInfo info = some i ∧
      verify i.spki info alg sig = true := by
  obtain ⟨a⟩ := accepted_steps _ _ _ _ _ h
  exact ⟨a.info, a.algDer, a.sig, a.i, a.hsplit, a.hinfo, a.hverify⟩

/-- a request whose signature does not verify is rejected with an error -/
theorem bad_signature_rejected (p521 crypto : Bool) (der : Bytes) :
    ∀ r, parseCsr p521 crypto (fun _ _ _ _ => false) der ≠ .ok r := by
  intro r h
  obtain ⟨_, _, _, _, _, _, hv⟩ := accept_implies_verified _ _ _ _ _ h
  cases hv

/-- **the signature algorithm is one for the embedded key's kind**: the third-party verifier
    picks the scheme from the signature identifier and runs it on the key bits alone; an accepted
    request's identifier names an algorithm of the key type (RSA, EC, Ed25519) that the
    SubjectPublicKeyInfo declares, so what verified is a signature under the embedded key -/
theorem accepted_key_type_matches (p521 crypto : Bool) (verify : Bytes → Bytes → Bytes → Bytes → Bool)
    (der : Bytes) (r : CsrParsed) (h : parseCsr p521 crypto verify der = .ok r) :
    ∃ info alg sig oid sigAlg, splitSigned der = some (info, alg, sig) ∧ algIdOid alg = some oid ∧
      sigAlgFromOid p521 oid = some sigAlg ∧ r.key.alg.keyOids.head? = sigAlg.keyOids.head? := by
  obtain ⟨a⟩ := accepted_steps _ _ _ _ _ h
  refine ⟨a.info, a.algDer, a.sig, a.oid, a.sigAlg, a.hsplit, a.hoid, a.hsig, ?_⟩
  have := a.hsame
  unfold SigAlg.sameKeyType at this
  simpa using this

/-- **the issued SubjectPublicKeyInfo is the request's, byte for byte**: for every accepted
    request, the SubjectPublicKeyInfo rcgen writes for (algorithm, key bits) of the parsed
    request — which is field 6 of every certificate issued from it — is exactly the byte string
    that stands in the request, whatever the request's encoding was -/
theorem accepted_spki_identical (p521 crypto : Bool) (verify : Bytes → Bytes → Bytes → Bytes → Bool)
    (der : Bytes) (r : CsrParsed) (h : parseCsr p521 crypto verify der = .ok r)
    (H : Hashes) (issuer : Issuer) :
    ∃ info alg sig i, splitSigned der = some (info, alg, sig) ∧ decodeCsrInfo info = some i ∧
      ((tbsCertificateFields H r.params r.key issuer)[6]?).map encode = some i.spki := by
  obtain ⟨a⟩ := accepted_steps _ _ _ _ _ h
  refine ⟨a.info, a.algDer, a.sig, a.i, a.hsplit, a.hinfo, ?_⟩
  rw [← a.hspki]
  rfl

/-- the key algorithm recorded for an accepted request always describes the embedded key: its
    SubjectPublicKeyInfo AlgorithmIdentifier is byte-identical to the request's -/
theorem key_alg_describes_key (p521 : Bool) (sigAlg alg : SigAlg) (spkiAlg : Bytes)
    (h : csrKeyAlg p521 sigAlg spkiAlg = some alg) : encode (spkiAlgIdent alg) = spkiAlg := by
  unfold csrKeyAlg at h
  split at h
  · rename_i he
    injection h with h; subst h
    simpa using he
  · have := List.find?_some h
    simpa using this

/-- **issued SubjectPublicKeyInfo identical**: the SubjectPublicKeyInfo written into a
    certificate issued for (algorithm, key bits) of an accepted request is, byte for byte, the
    request's own (an AlgorithmIdentifier `a` and a BIT STRING of whole octets `key`) -/
theorem issued_spki_identical (alg : SigAlg) (a : Asn1) (key : Bytes)
    (halg : encode (spkiAlgIdent alg) = encode a) :
    spkiDer { alg := alg, raw := key } = encode (.cons 0 16 [a, .prim 0 3 (0 :: key)]) := by
  unfold spkiDer spkiNode
  simp only [Asn1.seq, encode, encodeList, Asn1.bitStringOctets, Asn1.bitString,
    bitStringContent_octets, halg]

/-- P-384 key signed with ecdsa-with-SHA256: the recorded key algorithm is the P-384 one -/
theorem p384_signed_with_sha256 :
    csrKeyAlg false .ecdsaP256 (encode (spkiAlgIdent .ecdsaP384)) = some .ecdsaP384 := by decide

/-- **nothing partially honoured**: if the requested extensions are carried over at all, every
    one of them is a key usage, a subject alternative name, or an extended key usage naming
    standard purposes only -/
theorem unsupported_rejected (p p' : CertParams) (seen : List (List Nat)) (exts : List (Ext × Bytes))
    (h : applyRequested p seen exts = .ok p') :
    ∀ e ∈ exts, (∃ b, e.1.value = .keyUsage b) ∨ (∃ n, e.1.value = .san n) ∨
      (∃ o, e.1.value = .eku o ∧ o.all (fun x => stdEkus.any (fun s => s.oid == x)) = true) :=
  Proofs.CsrAccept.unsupported_rejected p p' seen exts h

/-- **no extension is asked for twice**: the identifiers of the extensions of an accepted
    request are pairwise different (and different from the ones already seen), so none replaces
    an earlier one -/
theorem no_repeated_extension (p p' : CertParams) (seen : List (List Nat)) (exts : List (Ext × Bytes))
    (h : applyRequested p seen exts = .ok p') :
    (exts.map (·.1.oid)).Nodup ∧ ∀ e ∈ exts, e.1.oid ∉ seen :=
  Proofs.CsrAccept.applyRequested_fresh h

/-- **at most one extension request, with one value**: an accepted request has no
    extensionRequest attribute (then nothing is requested), or exactly one -/
theorem at_most_one_request (attrs : List CsrAttr) (exts : List (Ext × Bytes))
    (h : csrExtensionRequests attrs = .ok exts) :
    (attrs.filter (fun a => a.oid == extensionRequestOid) = [] ∧ exts = []) ∨
    (∃ a dec raws, attrs.filter (fun a => a.oid == extensionRequestOid) = [a] ∧
      decodeExtensionRequest a.values = some dec ∧ rawExtValues a.values = some raws ∧
      exts = dec.zip raws) :=
  Proofs.CsrAccept.at_most_one_request attrs exts h

/-- **key usages are carried over exactly**: the requested KeyUsage value is, byte for byte, the
    value rcgen writes for the usages it recorded — so no requested bit is dropped and the
    issued extension equals the requested one; a request for no usage at all is refused -/
theorem carries_key_usage (p p' : CertParams) (seen : List (List Nat)) (bits : List Nat)
    (oid : List Nat) (c : Bool) (raw : Bytes)
    (h : applyRequested p seen [(⟨oid, c, .keyUsage bits⟩, raw)] = .ok p') :
    p'.keyUsages = importKeyUsages bits ∧ p'.keyUsages ≠ [] ∧
    encode (keyUsageValue p'.keyUsages) = raw ∧ p'.dn = p.dn ∧ p'.sans = p.sans := by
  obtain ⟨-, q, st, h'⟩ := Proofs.CsrAccept.applyRequested_cons h
  cases Proofs.CsrAccept.applyRequested_nil h'
  cases st with
  | keyUsage _ hne hraw => exact ⟨rfl, hne, hraw, rfl, rfl⟩

/-- **subject alternative names are carried over exactly**: at least one name, appended in the
    order requested, and the requested value is byte for byte the one rcgen writes for them -/
theorem carries_san (p p' : CertParams) (seen : List (List Nat)) (names : List GName)
    (oid : List Nat) (c : Bool) (raw : Bytes)
    (h : applyRequested p seen [(⟨oid, c, .san names⟩, raw)] = .ok p') :
    ∃ s, importSans names = .ok s ∧ s ≠ [] ∧ encode (.seq (s.map sanNode)) = raw ∧
      p'.sans = p.sans ++ s ∧ p'.keyUsages = p.keyUsages := by
  obtain ⟨-, q, st, h'⟩ := Proofs.CsrAccept.applyRequested_cons h
  cases Proofs.CsrAccept.applyRequested_nil h'
  cases st with
  | san _ s hs hne hraw => exact ⟨s, hs, hne, hraw, rfl, rfl⟩

/-- **issuance carries the request, and nothing but the request.**  For every byte string the
    parser accepts (rcgen's own requests and anybody else's), every third-party verifier, every
    issuer and hash family: when a certificate is issued from the parsed request, the clause
    list `Spec.c06IssueClauses` — which reads only the two artefacts with the RFC 2986 / RFC 5280
    decoders — is empty: the issued subject is the requested subject; the subject alternative
    names and the KeyUsage value are the ones in the request (all of them, from every extension
    request the request holds); the extended key usages are the same set; and the request asks
    for no other extension and no non-standard purpose.  Together with
    `accepted_spki_identical` this is the second half of the property. -/
theorem issued_carries_request (p521 crypto : Bool) (verify : Bytes → Bytes → Bytes → Bytes → Bool)
    (der : Bytes) (r : CsrParsed) (h : parseCsr p521 crypto verify der = .ok r)
    (H : Hashes) (issuer : Issuer)
    (hinv : certInvalid r.params issuer = none)
    (hnp : certPanics r.params issuer = false)
    (hsize : (encode (tbsCertificate H r.params r.key issuer)).length < 256 ^ 126) :
    Spec.c06IssueClauses der (encode (tbsCertificate H r.params r.key issuer)) = [] :=
  Proofs.CsrIssue.issued_clauses_hold p521 crypto verify der r h H issuer hinv hnp hsize

/-! non-vacuity of the gates: the loop over the requested extensions (`unsupported_rejected`,
    `no_repeated_extension`, `carries_key_usage`) and the key-type test
    (`accepted_key_type_matches`) each refuse one input and let another through -/
example : applyRequested defaultParams [] [(⟨[2, 5, 29, 19], true, .basicConstraints true none⟩, [48, 3, 1, 1, 255])] =
    .error .unsupportedExtension := rfl
-- key usage {digitalSignature}: accepted with the minimal encoding, refused with a trailing zero
-- octet, with an unnamed bit (bit 9), or empty
example : (applyRequested defaultParams [] [(⟨[2, 5, 29, 15], true, .keyUsage [0]⟩, [3, 2, 7, 128])]).toOption.map (·.keyUsages)
    = some [.digitalSignature] := by decide
example : applyRequested defaultParams [] [(⟨[2, 5, 29, 15], true, .keyUsage [0]⟩, [3, 3, 0, 128, 0])] =
    .error .unsupportedExtension := by rfl
example : applyRequested defaultParams [] [(⟨[2, 5, 29, 15], true, .keyUsage [0, 9]⟩, [3, 3, 6, 128, 64])] =
    .error .unsupportedExtension := by rfl
example : applyRequested defaultParams [] [(⟨[2, 5, 29, 15], true, .keyUsage []⟩, [3, 1, 0])] =
    .error .unsupportedExtension := by rfl
-- the same extension twice
example : applyRequested defaultParams [] [(⟨[2, 5, 29, 15], true, .keyUsage [0]⟩, [3, 2, 7, 128]),
    (⟨[2, 5, 29, 15], true, .keyUsage [0]⟩, [3, 2, 7, 128])] = .error .unsupportedExtension := by rfl
-- an Ed25519 signature identifier over a key declared as RSA is not a signature under that key
example : SigAlg.sameKeyType .rsaSha256 .ed25519 = false := by decide
example : SigAlg.sameKeyType .ecdsaP384 .ecdsaP256 = true := by decide

/-! non-vacuity of `issued_carries_request`: a request with a name, two alternative names, key
    usages and two purposes is accepted, and issuing from it meets the hypotheses -/
def exReq : Spec.CsrInputs :=
  { p := { (default : CertParams) with
           sans := [.dns [0x61], .ip [10, 0, 0, 1]],
           keyUsages := [.keyEncipherment, .digitalSignature],
           ekus := [.clientAuth, .serverAuth],
           dn := ((DistinguishedName.new.push .org (.printable [0x4f])).push .commonName (.utf8 [0x61])) },
    subject := ⟨.ed25519, List.replicate 32 7⟩, attrs := [] }
def exIssuer : Issuer :=
  { dn := DistinguishedName.new.push .commonName (.utf8 [0x43, 0x41]), keyIdMethod := .sha256,
    keyUsages := [.keyCertSign], key := ⟨.ecdsaP256, [4, 1, 2]⟩ }

example : (match parseCsr false true (fun _ _ _ _ => true)
      (encode (Proofs.Canon.Csr.signedCsr exReq (List.replicate 64 9))) with
    | .ok r => certInvalid r.params exIssuer == none && !certPanics r.params exIssuer &&
        r.params.sans == exReq.p.sans
    | .error _ => false) = true := by decide +kernel

/-! ### which verifier's word is taken (Model/CsrVerify.lean = csr.rs:108-123, `verify_ecdsa_p521`) -/

/-- **whose word is taken**: `from_der` counts a signature as verified when the third-party
    verifier says so, or — in an aws-lc-rs build, after that verifier answered "unsupported
    algorithm", for a request signed under ecdsa-with-SHA512 whose SubjectPublicKeyInfo algorithm
    is exactly id-ecPublicKey / secp521r1 — when the back end's P-521 verification of the
    embedded key octets over the same bytes says so; in no other case -/
theorem own_verifier_only_for_labelled_p521 (p521 : Bool)
    (tp : Bytes → Bytes → Bytes → Bytes → ThirdPartyVerdict) (own : Bytes → Bytes → Bytes → Bool)
    (spki info algDer sig : Bytes) (h : rcgenVerify p521 tp own spki info algDer sig = true) :
    tp spki info algDer sig = .ok ∨
    (p521 = true ∧ tp spki info algDer sig = .unsupportedAlgorithm ∧
     (algIdOid algDer).bind (sigAlgFromOid p521) = some .ecdsaP521 ∧
     ∃ bits, spkiParts spki = some (encode (spkiAlgIdent .ecdsaP521), bits) ∧
       own bits info sig = true) := by
  unfold rcgenVerify at h
  cases ht : tp spki info algDer sig with
  | ok => exact Or.inl rfl
  | failed => simp [ht] at h
  | unsupportedAlgorithm =>
    right
    simp only [ht, Bool.and_eq_true, beq_iff_eq] at h
    obtain ⟨⟨hp, halg⟩, hk⟩ := h
    refine ⟨hp, rfl, halg, ?_⟩
    cases hs : spkiParts spki with
    | none => simp [hs] at hk
    | some pr =>
      obtain ⟨ka, kb⟩ := pr
      simp only [hs, Bool.and_eq_true, beq_iff_eq] at hk
      exact ⟨kb, by rw [hk.1], hk.2⟩

/-- **acceptance with both verifiers explicit**: a request is accepted only if, on the embedded
    SubjectPublicKeyInfo, the exact certificationRequestInfo bytes, the outer algorithm and the
    signature bits of the input, one of the two verifiers — in the cases above — confirmed the
    signature -/
theorem accept_implies_verified_by_one_of_two (p521 crypto : Bool)
    (tp : Bytes → Bytes → Bytes → Bytes → ThirdPartyVerdict) (own : Bytes → Bytes → Bytes → Bool)
    (der : Bytes) (r : CsrParsed) (h : parseCsrWith p521 crypto tp own der = .ok r) :
    ∃ info alg sig i, splitSigned der = some (info, alg, sig) ∧ decodeCsrInfo info = some i ∧
      (tp i.spki info alg sig = .ok ∨
       (p521 = true ∧ tp i.spki info alg sig = .unsupportedAlgorithm ∧
        (algIdOid alg).bind (sigAlgFromOid p521) = some .ecdsaP521 ∧
        ∃ bits, spkiParts i.spki = some (encode (spkiAlgIdent .ecdsaP521), bits) ∧
          own bits info sig = true)) := by
  obtain ⟨info, alg, sig, i, h1, h2, h3⟩ := accept_implies_verified p521 crypto _ der r h
  exact ⟨info, alg, sig, i, h1, h2, own_verifier_only_for_labelled_p521 p521 tp own _ _ _ _ h3⟩

/-- without aws-lc-rs the third-party verifier is the only one -/
theorem ring_build_third_party_only (tp : Bytes → Bytes → Bytes → Bytes → ThirdPartyVerdict)
    (own : Bytes → Bytes → Bytes → Bool) (spki info algDer sig : Bytes) :
    rcgenVerify false tp own spki info algDer sig = (tp spki info algDer sig == .ok) := by
  unfold rcgenVerify
  cases tp spki info algDer sig <;> rfl

end Rcgen.Theorems.C06
