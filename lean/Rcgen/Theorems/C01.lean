import Rcgen.Model.Sign
import Rcgen.Spec.Props
import Rcgen.Proofs.DerRoundTrip
import Rcgen.Proofs.Issue
/-
  C01 — every issued artefact carries a valid signature over exactly its signed bytes.
  Model: `signDer` (key_pair.rs:411-429) and the three generation entry points (Model/Sign.lean);
  the signer is an arbitrary function `Bytes → Except Err Bytes` (local or remote key).
  Cryptography is a parameter: a signature scheme with the law "what `sign` returns verifies".
  Proofs/CertDecode.lean imports this file (for `spki_algid_is_rfc_identifier`), so it must not
  import that module or anything above it.
-/
namespace Rcgen.Theorems.C01
open Rcgen.Model

/-- the bytes handed to the signer are the bytes embedded as the to-be-signed part; the
    signature returned is what goes into the BIT STRING; exactly one signer call decides -/
theorem signDer_signs_embedded_bytes (alg : SigAlg) (sign : Signer) (tbs t : Asn1)
    (h : signDer alg sign tbs = .ok t) :
    ∃ sig, sign (encode tbs) = .ok sig ∧ t = .seq [tbs, algIdent alg, .bitStringOctets sig] :=
  Proofs.Issue.signDer_ok h

/-- if the signer fails, its error is returned and no artefact exists -/
theorem signer_failure_no_artefact (alg : SigAlg) (sign : Signer) (tbs : Asn1) (e : Err)
    (h : sign (encode tbs) = .error e) : signDer alg sign tbs = .error e := by
  unfold signDer; rw [h]

/-- strict outer decoding of the artefact recovers exactly (tbs bytes, algorithm, signature) -/
theorem outer_decodes (alg : SigAlg) (tbs : Asn1) (sig : Bytes)
    (hwf : (Asn1.seq [tbs, algIdent alg, .bitStringOctets sig]).WF) :
    Spec.splitSigned (encode (.seq [tbs, algIdent alg, .bitStringOctets sig])) =
      some (encode tbs, encode (algIdent alg), sig) := by
  rw [Spec.splitSigned, decodeAll_encode _ hwf]
  simp only [asn1]
  rfl

/-- the algorithm identifier rcgen writes for each signing algorithm is, byte for byte, the
    RFC-registered one (RFC 4055 §5 with NULL parameters; RFC 5758 §3.2 and RFC 8410 §3 with
    parameters absent) -/
theorem algid_is_rfc_identifier (a : SigAlg) : encode (algIdent a) = Spec.rfcSigAlgId a := by
  cases a <;> decide +kernel

/-- and the key's algorithm identifier inside SubjectPublicKeyInfo is the RFC one
    (rsaEncryption with NULL; id-ecPublicKey with the named curve; id-Ed25519) -/
theorem spki_algid_is_rfc_identifier (a : SigAlg) :
    encode (spkiAlgIdent a) = Spec.rfcSpkiAlgId a := by
  cases a <;> decide +kernel

/-- inside a certificate the `signature` field is the same tree as the outer
    `signatureAlgorithm`: the identifier of the *issuer's* key algorithm -/
theorem inner_algid_eq_outer_cert (cfg : Config) (H : Hashes) (p : CertParams) (s : PubKey)
    (i : Issuer) (sign : Signer) (t : Asn1) (h : issueCert cfg H p s i sign = .ok t) :
    ∃ sig, t = .seq [tbsCertificate H p s i, algIdent i.key.alg, .bitStringOctets sig] ∧
      (tbsCertificateFields H p s i)[2]? = some (algIdent i.key.alg) ∧
      sign (encode (tbsCertificate H p s i)) = .ok sig := by
  obtain ⟨_, _, _, sig, h1, h2⟩ := Proofs.Issue.issueCert_ok h
  exact ⟨sig, h2, by simp [tbsCertificateFields], h1⟩

theorem inner_algid_eq_outer_crl (H : Hashes) (p : CrlParams) (i : Issuer) (sign : Signer)
    (t : Asn1) (h : issueCrl H p i sign = .ok t) :
    ∃ sig rest, t = .seq [tbsCertList H p i, algIdent i.key.alg, .bitStringOctets sig] ∧
      tbsCertList H p i = .seq (Asn1.intOfNat 1 :: algIdent i.key.alg :: rest) ∧
      sign (encode (tbsCertList H p i)) = .ok sig := by
  obtain ⟨_, _, _, _, sig, h1, h2⟩ := Proofs.Issue.issueCrl_ok h
  exact ⟨sig, _, h2, rfl, h1⟩

/-- a CSR is signed with the requester's own key algorithm over certificationRequestInfo -/
theorem csr_signed_by_subject (p : CertParams) (s : PubKey) (attrs : List Attribute)
    (sign : Signer) (t : Asn1) (h : serializeRequest p s attrs sign = .ok t) :
    ∃ sig, t = .seq [csrInfo p s attrs, algIdent s.alg, .bitStringOctets sig] ∧
      sign (encode (csrInfo p s attrs)) = .ok sig := by
  obtain ⟨_, _, _, sig, h1, h2⟩ := Proofs.Issue.serializeRequest_ok h
  exact ⟨sig, h2, h1⟩

/-- a signature scheme: whatever `sign` returns verifies under the matching public key -/
structure SigScheme where
  SK : Type
  PK : Type
  pk : SK → PK
  sign : SK → Bytes → Except Err Bytes
  verify : PK → Bytes → Bytes → Bool
  sound : ∀ sk m s, sign sk m = .ok s → verify (pk sk) m s = true

/-- every certificate the model returns verifies under the issuer key over exactly the
    embedded to-be-signed bytes (same argument for CSRs under the subject key and CRLs) -/
theorem signed_verifies (S : SigScheme) (sk : S.SK) (cfg : Config) (H : Hashes) (p : CertParams)
    (s : PubKey) (i : Issuer) (t : Asn1) (h : issueCert cfg H p s i (S.sign sk) = .ok t) :
    ∃ sig, t = .seq [tbsCertificate H p s i, algIdent i.key.alg, .bitStringOctets sig] ∧
      S.verify (S.pk sk) (encode (tbsCertificate H p s i)) sig = true := by
  obtain ⟨sig, h1, _, h3⟩ := inner_algid_eq_outer_cert cfg H p s i _ t h
  exact ⟨sig, h1, S.sound sk _ sig h3⟩

/-- a failing signer yields its error for all three kinds: there is no path to an artefact
    that does not go through a successful signer call -/
theorem signer_failure_cert (cfg : Config) (H : Hashes) (p : CertParams) (s : PubKey) (i : Issuer)
    (sign : Signer) (hfail : ∀ m, ∃ e, sign m = .error e) :
    ∀ t, issueCert cfg H p s i sign ≠ .ok t :=
  let ⟨_, he⟩ := hfail (encode (tbsCertificate H p s i))
  Proofs.Issue.issueCert_ne_ok he

theorem signer_failure_csr (p : CertParams) (s : PubKey) (attrs : List Attribute)
    (sign : Signer) (hfail : ∀ m, ∃ e, sign m = .error e) :
    ∀ t, serializeRequest p s attrs sign ≠ .ok t :=
  let ⟨_, he⟩ := hfail (encode (csrInfo p s attrs))
  Proofs.Issue.serializeRequest_ne_ok he

theorem signer_failure_crl (H : Hashes) (p : CrlParams) (i : Issuer)
    (sign : Signer) (hfail : ∀ m, ∃ e, sign m = .error e) :
    ∀ t, issueCrl H p i sign ≠ .ok t :=
  let ⟨_, he⟩ := hfail (encode (tbsCertList H p i))
  Proofs.Issue.issueCrl_ne_ok he

/-! non-vacuity: the hypotheses of `signDer_signs_embedded_bytes` are met by a concrete signer -/
example : signDer .ed25519 (fun _ => .ok [1, 2]) (.seq []) =
    .ok (.seq [.seq [], algIdent .ed25519, .bitStringOctets [1, 2]]) := rfl

end Rcgen.Theorems.C01
