import Rcgen.Proofs.ImportDecode
import Rcgen.Theorems.C03_Chain
import Rcgen.Proofs.ImportSucceeds
import Rcgen.Theorems.C02
/-
  C17 — importing a CA certificate recovers the fields it claims to recover.
  Model: `Model/Import.lean` (`importCa`: rcgen's glue after the x509-parser decode).
  `import_of_generated` is the statement end to end on the model: the glue applied to what a
  generated certificate decodes to (C02's record) returns the generating fields.  The field
  lemmas it is assembled from follow, then `import_of_generated_succeeds` (proofs in
  Proofs/ImportFields.lean, Proofs/ImportDecode.lean, Proofs/ImportSucceeds.lean).
  That x509-parser yields the content the Spec decoder yields is observed by the check on every
  imported certificate, not proved.
-/
namespace Rcgen.Theorems.C17
open Rcgen.Model Rcgen.Spec Rcgen.Proofs

abbrev subtreeSupported := ImportFields.subtreeSupported

/-- **import ∘ generate = identity on the supported fields.**  For every parameter set: whatever
    the import glue returns for the content a generated certificate decodes to has the
    generating subject name, CA flag and path length (0..=255), key usages as a set, standard
    extended key usages as a set, subject alternative names, supported name-constraint subtrees
    (e-mail, DNS, IPv4 and IPv6 subnets), serial number as an integer and both validity
    instants. -/
theorem import_of_generated (crypto : Bool) (i : CertInputs)
    (hc : ∀ e ∈ i.p.customExts, e.oid ∉ X509.knownOids) (p' : CertParams)
    (h : importCa crypto (CertDecode.modelTbs i) = .ok p')
    (hpl : ∀ n, i.p.isCa = .ca (some n) → n ≤ 255)
    (hip : ∀ o, SanType.ip o ∈ i.p.sans → o.length = 4 ∨ o.length = 16)
    (hother : ∀ oid v, SanType.otherName oid v ∈ i.p.sans → utf8Valid v = true ∧ ∀ x ∈ oid, x < 2 ^ 64)
    (hnc : ∀ nc, i.p.nameConstraints = some nc →
      nc.permitted.all subtreeSupported = true ∧ nc.excluded.all subtreeSupported = true) :
    reqName p'.dn.iter = reqName i.p.dn.iter ∧
    p'.isCa = i.p.isCa ∧
    p'.keyUsages = KeyUsage.all.filter (fun k => i.p.keyUsages.contains k) ∧
    (∀ e, e ∈ p'.ekus ↔ (e ∈ stdEkus ∧ ∃ x ∈ i.p.ekus, rfcEkuOid x = e.oid)) ∧
    p'.sans = i.p.sans ∧
    p'.nameConstraints = (match i.p.nameConstraints with
      | some nc => if nc.isEmpty then none else some nc
      | none => none) ∧
    (∀ s, p'.serial = some s → ofBe s = reqSerial i) ∧
    p'.notBefore.epochSeconds = i.p.notBefore.epochSeconds ∧
    p'.notAfter.epochSeconds = i.p.notAfter.epochSeconds :=
  ImportDecode.import_of_generated crypto i hc p' h hpl hip hother hnc

/-- re-issuing through an import keeps the chain: a certificate issued from the *imported*
    parameters of a CA names that CA as its issuer — its issuer field decodes to exactly the
    subject the CA certificate decodes to (C03's name clause, through `from_ca_cert_der`) -/
theorem issued_from_imported_names_issuer (crypto : Bool) (ca : CertInputs)
    (hc : ∀ e ∈ ca.p.customExts, e.oid ∉ X509.knownOids) (p' : CertParams)
    (h : importCa crypto (CertDecode.modelTbs ca) = .ok p')
    (hpl : ∀ n, ca.p.isCa = .ca (some n) → n ≤ 255)
    (hip : ∀ o, SanType.ip o ∈ ca.p.sans → o.length = 4 ∨ o.length = 16)
    (hother : ∀ oid v, SanType.otherName oid v ∈ ca.p.sans → utf8Valid v = true ∧ ∀ x ∈ oid, x < 2 ^ 64)
    (hnc : ∀ nc, ca.p.nameConstraints = some nc →
      nc.permitted.all subtreeSupported = true ∧ nc.excluded.all subtreeSupported = true)
    (leaf : CertParams) (leafKey caKey : PubKey) (H : Hashes) :
    (CertDecode.modelTbs ⟨H, leaf, leafKey, Validate.issuerOf ⟨p', caKey⟩⟩).issuer =
      (CertDecode.modelTbs ca).subject :=
  -- `hc`, `hpl`, `hip`, `hother`, `hnc` are not needed: the issuer is named so whatever record the
  -- import accepts
  C03.issued_from_any_import_names_issuer crypto _ p' h leaf leafKey caKey H

/-- `get_extension_unique` never errs on a generated certificate: each of rcgen's own
    extensions occurs at most once (C05), so the lookup returns it, or nothing -/
theorem unique_extension_lookup (i : CertInputs)
    (hc : ∀ e ∈ i.p.customExts, e.oid ∉ X509.knownOids) (o : List Nat) (ho : o ∈ X509.knownOids) :
    uniqueExt (CertDecode.modelTbs i) o = .ok ((CertDecode.modelExts i).find? (Validate.hasOid o)) :=
  ImportDecode.uniqueExt_model i hc o ho

/-- subject name: see `C03.import_preserves_or_fails` (any name without a repeated type) -/
theorem subject_name_recovered (n : Name) (dn : DistinguishedName) (h : importName n = .ok dn) :
    reqName dn.iter = n := C03.import_preserves_or_fails n dn h

/-- CA flag and path length -/
theorem is_ca_recovered (oid : List Nat) (crit : Bool) :
    (∀ n, n ≤ 255 → importIsCa (some ⟨oid, crit, .basicConstraints true (some n)⟩) = .ok (.ca (some n))) ∧
    importIsCa (some ⟨oid, crit, .basicConstraints true none⟩) = .ok (.ca none) ∧
    importIsCa (some ⟨oid, crit, .basicConstraints false none⟩) = .ok .explicitNoCa ∧
    importIsCa none = .ok .noCa := by
  refine ⟨?_, rfl, rfl, rfl⟩
  intro n hn
  simp [importIsCa, hn]

theorem index_lt (k : KeyUsage) : k.index < 9 := Proofs.KeyUsage.index_lt k

theorem index_inj (a b : KeyUsage) (h : a.index = b.index) : a = b := Proofs.KeyUsage.index_inj h

/-- **key usages, as a set**: the named bits a decoder reads for a usage list import back as
    exactly the usages that occur in it (the bit-reversal detour of the real code is the
    identity on named-bit indices) -/
theorem key_usage_reversal (kus : List KeyUsage) :
    importKeyUsages (reqKeyUsageBits kus) = KeyUsage.all.filter (fun k => kus.contains k) :=
  ImportFields.key_usage_reversal kus

/-- serial number, as an integer -/
theorem serial_recovered (n : Nat) : ofBe (serialBytesOfNat n) = n := ImportFields.serial_recovered n

/-- validity: the imported date-time denotes the decoded instant -/
theorem validity_recovered (t : Int) : (dateTimeOfEpoch t).epochSeconds = t :=
  ImportFields.validity_recovered t

/-- subject alternative names (values of the validated types: IP octets of length 4 or 16,
    otherName text valid UTF-8, identifier components fitting the `u64` they are given as) -/
theorem san_recovered (s : SanType)
    (hip : ∀ o, s = .ip o → o.length = 4 ∨ o.length = 16)
    (hother : ∀ oid v, s = .otherName oid v → utf8Valid v = true ∧ ∀ x ∈ oid, x < 2 ^ 64) :
    importSan (reqSan s) = .ok s := ImportFields.san_recovered s hip hother

/-- supported name-constraint subtrees, any number, permitted or excluded alike: recovered in order -/
theorem subtrees_recovered (ts : List GeneralSubtree) (h : ts.all subtreeSupported = true) :
    importSubtrees (ts.map (reqSubtree enumOf)) = .ok ts := ImportFields.subtrees_recovered ts h

/-- the standard extended key usages are recovered as a set: a standard purpose is imported
    exactly when its identifier was written -/
theorem ekus_recovered (ekus : List Eku) (e : Eku) :
    e ∈ importEkus (ekus.map rfcEkuOid) ↔ (e ∈ stdEkus ∧ ∃ x ∈ ekus, rfcEkuOid x = e.oid) :=
  ImportFields.ekus_recovered ekus e

/-- the subject key identifier is captured as a fixed key identifier -/
theorem ski_captured (crypto : Bool) (c : TbsCert) (b : Bytes) (rest : List Bytes)
    (h : c.exts.filterMap skiOf = b :: rest) : importKid crypto c = .ok (.preSpecified b) :=
  ImportFields.ski_captured crypto c b rest h

/-- re-issuing: the key-usage set written from the imported list is the one imported -/
theorem reissue_key_usages (kus : List KeyUsage) :
    reqKeyUsageBits (importKeyUsages (reqKeyUsageBits kus)) = reqKeyUsageBits kus :=
  ImportFields.reissue_key_usages kus

abbrev valueWellFormed := ImportSucceeds.valueWellFormed

/-- **importing a generated certificate succeeds.**  The glue of `from_ca_cert_der`, applied to
    what an RFC 5280 reader finds in a certificate rcgen generated, returns parameters (which
    `import_of_generated` then characterises): for every subject whose values carry the
    invariants of their string types (C13) and whose attribute identifiers are pairwise different
    with components a `u64` holds, every CA flag with a path length a `u8` holds, every key
    usage / extended key usage list, alternative names of the validated types, supported
    name-constraint subtrees, any serial, validity and key-identifier method (without a crypto
    back end the certificate has to carry a subject key identifier, as the code requires) -/
theorem import_of_generated_succeeds (crypto : Bool) (i : CertInputs)
    (hc : ∀ e ∈ i.p.customExts, e.oid ∉ X509.knownOids)
    (hwf : ∀ e ∈ i.p.dn.iter, valueWellFormed e.2 = true)
    (hu : ∀ e ∈ i.p.dn.iter, ∀ x ∈ rfcAttrOid e.1, x < 2 ^ 64)
    (hnd : (i.p.dn.iter.map (fun e => DnType.fromOid (rfcAttrOid e.1))).Nodup)
    (hpl : ∀ n, i.p.isCa = .ca (some n) → n ≤ 255)
    (hip : ∀ o, SanType.ip o ∈ i.p.sans → o.length = 4 ∨ o.length = 16)
    (hother : ∀ oid v, SanType.otherName oid v ∈ i.p.sans → utf8Valid v = true ∧ ∀ x ∈ oid, x < 2 ^ 64)
    (hnc : ∀ nc, i.p.nameConstraints = some nc →
      nc.permitted.all subtreeSupported = true ∧ nc.excluded.all subtreeSupported = true)
    (hkid : crypto = true ∨ ∃ b rest, (CertDecode.modelTbs i).exts.filterMap skiOf = b :: rest) :
    ∃ p', importCa crypto (CertDecode.modelTbs i) = .ok p' :=
  ImportSucceeds.import_succeeds crypto i hc hwf hu hnd hpl hip hother hnc hkid

/-! non-vacuity of `import_of_generated_succeeds`: a CA with a two-attribute name, a path
    length, alternative names and a DNS name constraint meets every hypothesis -/
def exCa : CertInputs :=
  { H := ⟨fun _ => List.replicate 32 7, fun _ => List.replicate 48 7, fun _ => List.replicate 64 7⟩,
    p := { (default : CertParams) with
           dn := (DistinguishedName.new.push .org (.printable [0x4f])).push .commonName (.utf8 [0xc3, 0xa9]),
           isCa := .ca (some 3), sans := [.dns [0x61], .ip [10, 0, 0, 1], .otherName [1, 2, 3] [0x78]],
           nameConstraints := some { permitted := [.dns [0x62]], excluded := [.ip (.v4 [10, 0, 0, 0] [255, 0, 0, 0])] } },
    subject := ⟨.ed25519, List.replicate 32 7⟩,
    issuer := { dn := DistinguishedName.new, keyIdMethod := .sha256, keyUsages := [], key := ⟨.ed25519, List.replicate 32 7⟩ } }

example : (∀ e ∈ exCa.p.dn.iter, valueWellFormed e.2 = true) ∧
    (∀ e ∈ exCa.p.dn.iter, ∀ x ∈ rfcAttrOid e.1, x < 2 ^ 64) ∧
    (exCa.p.dn.iter.map (fun e => DnType.fromOid (rfcAttrOid e.1))).Nodup ∧
    (∀ nc, exCa.p.nameConstraints = some nc →
      nc.permitted.all subtreeSupported = true ∧ nc.excluded.all subtreeSupported = true) := by
  refine ⟨by decide, by decide, by decide, ?_⟩
  intro nc h
  injection h with h
  subst h
  decide

/-! non-vacuity: the C02 example certificate imports (the glue returns parameters) -/
example : (match importCa true (CertDecode.modelTbs C02.exInputs) with
    | .ok _ => true
    | .error _ => false) = true := by decide +kernel

end Rcgen.Theorems.C17
