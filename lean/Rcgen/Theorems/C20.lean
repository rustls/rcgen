import Rcgen.Proofs.Name
/-
  C20 — a distinguished name is an insertion-ordered map under any edit history.
  Model: `DistinguishedName.push/remove/get/iter` (Model/Name.lean) mirror lib.rs:313-350,
  405-413; the HashMap is an association list in *arbitrary* order.
  Spec: `absPush` / `absRemove` on a plain insertion-ordered association list.
  Theorems/C03.lean imports this file, so it must not import C03, the proof modules that import
  C03 (ImportFields, CsrIssue, CsrRoundTrip), or anything above those.
-/
namespace Rcgen.Theorems.C20
open Rcgen.Model Rcgen.Model.DistinguishedName

/-! ### the invariant holds initially and is preserved by every operation -/

theorem inv_new : Inv DistinguishedName.new := ⟨List.nodup_nil, List.nodup_nil, fun _ => Iff.rfl⟩

theorem inv_push (dn : DistinguishedName) (h : Inv dn) (ty : DnType) (v : DnValue) :
    Inv (dn.push ty v) := by
  obtain ⟨h1, h2, h3⟩ := h
  refine ⟨?_, ?_, fun t => ?_⟩
  · rw [order_push]; split
    · exact h1
    · rename_i hm; exact nodup_snoc h1 (mt (h3 ty).1 hm)
  · rw [keys_push]; split
    · exact h2
    · rename_i hm; exact nodup_snoc h2 hm
  · rw [order_push, keys_push]; split
    · exact h3 t
    · rw [List.mem_append, List.mem_append, h3 t]

theorem inv_remove (dn : DistinguishedName) (h : Inv dn) (ty : DnType) :
    Inv (dn.remove ty).1 := by
  refine ⟨?_, ?_, fun t => ?_⟩
  · rw [order_remove dn h]; exact h.orderNodup.filter _
  · rw [keys_remove]; exact h.keysNodup.filter _
  · rw [order_remove dn h, keys_remove, List.mem_filter, List.mem_filter, h.same t]

/-! ### refinement: each concrete step is the abstract step on the enumeration -/

theorem refines_push (dn : DistinguishedName) (h : Inv dn) (ty : DnType) (v : DnValue) :
    (dn.push ty v).iter = absPush dn.iter ty v := by
  refine iter_eq _ (inv_push dn h ty v) _ ?_ fun t => ?_
  · rw [absPush_eq_mapInsert, keys_mapInsert, keys_iter dn h, order_push]
    simp only [h.same]
  · rw [absPush_eq_mapInsert, lookup_mapInsert, get_push, lookup_iter dn h]

theorem refines_remove (dn : DistinguishedName) (h : Inv dn) (ty : DnType) :
    ((dn.remove ty).1.iter, (dn.remove ty).2) = absRemove dn.iter ty := by
  have hk := keys_iter dn h
  refine Prod.ext (iter_eq _ (inv_remove dn h ty) (mapRemove dn.iter ty) ?_ fun t => ?_) ?_
  · rw [keys_mapRemove, hk, order_remove dn h]
  · rw [lookup_mapRemove, get_remove, lookup_iter dn h]
  · rw [remove_snd, absRemove, Bool.eq_iff_iff, containsKey_iff, any_key_iff, hk, h.same]

inductive Op where
  | push (ty : DnType) (v : DnValue)
  | remove (ty : DnType)

/-- concrete step with its observable output (`remove` reports whether it removed) -/
def step (dn : DistinguishedName) : Op → DistinguishedName × Option Bool
  | .push ty v => (dn.push ty v, none)
  | .remove ty => ((dn.remove ty).1, some (dn.remove ty).2)

def absStep (a : Entries) : Op → Entries × Option Bool
  | .push ty v => (absPush a ty v, none)
  | .remove ty => ((absRemove a ty).1, some (absRemove a ty).2)

def run (ops : List Op) : DistinguishedName × List (Option Bool) :=
  ops.foldl (fun (s : DistinguishedName × List (Option Bool)) op =>
    ((step s.1 op).1, s.2 ++ [(step s.1 op).2])) (DistinguishedName.new, [])

def absRun (ops : List Op) : Entries × List (Option Bool) :=
  ops.foldl (fun (s : Entries × List (Option Bool)) op =>
    ((absStep s.1 op).1, s.2 ++ [(absStep s.1 op).2])) ([], [])

theorem step_refines (dn : DistinguishedName) (h : Inv dn) (op : Op) :
    Inv (step dn op).1 ∧ (step dn op).1.iter = (absStep dn.iter op).1 ∧
      (step dn op).2 = (absStep dn.iter op).2 := by
  cases op with
  | push ty v => exact ⟨inv_push dn h ty v, refines_push dn h ty v, rfl⟩
  | remove ty =>
    have := refines_remove dn h ty
    exact ⟨inv_remove dn h ty, congrArg Prod.fst this, congrArg (fun r : Entries × Bool => some r.2) this⟩

/-- after *any* finite sequence of insertions and removals the container satisfies its
    invariant, enumerates exactly what the abstract insertion-ordered map holds, and has
    produced the same outputs -/
theorem history_refines (ops : List Op) :
    Inv (run ops).1 ∧ (run ops).1.iter = (absRun ops).1 ∧ (run ops).2 = (absRun ops).2 :=
  -- a forward simulation: the three clauses relate the states of the two folds, at the start
  -- and, by `step_refines`, after every further operation
  List.foldl_rel
    (r := fun (s : DistinguishedName × List (Option Bool)) (a : Entries × List (Option Bool)) =>
      Inv s.1 ∧ s.1.iter = a.1 ∧ s.2 = a.2)
    ⟨inv_new, rfl, rfl⟩
    fun op _ s a ⟨h1, h2, h3⟩ =>
      have ⟨i1, i2, i3⟩ := step_refines s.1 h1 op
      ⟨i1, h2 ▸ i2, by rw [h3, i3, h2]⟩

/-! ### the property's own words, as corollaries about any state satisfying the invariant -/

/-- enumeration lists exactly the types present, each once, in the order vector's order -/
theorem iter_is_insertion_order (dn : DistinguishedName) (h : Inv dn) :
    keys dn.iter = dn.order ∧ (keys dn.iter).Nodup ∧ ∀ t, t ∈ keys dn.iter ↔ (dn.get t).isSome := by
  have hk := keys_iter dn h
  refine ⟨hk, hk ▸ h.orderNodup, fun t => ?_⟩
  rw [hk, h.same t, DistinguishedName.get, lookup_isSome_iff]

/-- lookup agrees with enumeration -/
theorem get_agrees_with_iter (dn : DistinguishedName) (h : Inv dn) (t : DnType) :
    dn.get t = dn.iter.lookup t := (lookup_iter dn h t).symm

/-- Rust's derived `==` on the struct: the two maps are equal *as maps* and the order vectors
    are equal.  Under the invariant this is exactly equality of the enumerations. -/
def dnEq (a b : DistinguishedName) : Prop := (∀ t, a.get t = b.get t) ∧ a.order = b.order

theorem eq_iff_same_enumeration (a b : DistinguishedName) (ha : Inv a) (hb : Inv b) :
    dnEq a b ↔ a.iter = b.iter := by
  constructor
  · intro ⟨hg, ho⟩
    simp only [iter, ho]
    exact iterFrom_congr _ _ _ (fun t _ => hg t)
  · intro hi
    refine ⟨fun t => ?_, ?_⟩
    · rw [get_agrees_with_iter a ha, get_agrees_with_iter b hb, hi]
    · rw [← (iter_is_insertion_order a ha).1, ← (iter_is_insertion_order b hb).1, hi]

/-- the encoded name lists the attributes in exactly the enumeration's order -/
theorem encoded_name_follows_iter (dn : DistinguishedName) :
    writeDistinguishedName dn = .seq (dn.iter.map rdnNode) := rfl

/-! ### what the abstract map does (so the spec can be read in the property's words)

`absPush` is `mapInsert` over again: the abstract map is the concrete one kept in insertion order. -/

theorem abs_push_lookup (a : Entries) (ty : DnType) (v : DnValue) (t : DnType) :
    (absPush a ty v).lookup t = if t = ty then some v else a.lookup t :=
  absPush_eq_mapInsert a ty v ▸ lookup_mapInsert a ty v t

theorem abs_push_keys (a : Entries) (ty : DnType) (v : DnValue) :
    keys (absPush a ty v) = if ty ∈ keys a then keys a else keys a ++ [ty] :=
  absPush_eq_mapInsert a ty v ▸ keys_mapInsert a ty v

/-! ### non-vacuity: concrete reachable states -/

example : (run [.push .commonName (.utf8 [97]), .push .org (.utf8 [98]),
                .remove .commonName, .push .commonName (.utf8 [99])]).1.iter
    = [(.org, .utf8 [98]), (.commonName, .utf8 [99])] := by decide

example : Inv (DistinguishedName.new.push .commonName (.utf8 [97])) :=
  inv_push _ inv_new _ _

end Rcgen.Theorems.C20
