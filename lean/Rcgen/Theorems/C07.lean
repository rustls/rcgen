import Rcgen.Proofs.CsrDecode
import Rcgen.Proofs.CsrRoundTrip
import Rcgen.Proofs.Issue
/-
  C07 — a CSR says exactly what its parameters say, or is refused.
  This file: the refusal decision logic, the shape of the request,
  `csr_decodes_to_request`: the full typed decode (assembled in Proofs/CsrDecode.lean on the
  extension lemmas shared with C02), and `csr_round_trip`: what rcgen's own parser returns for the
  request (Proofs/CsrRoundTrip.lean), the request being the signed tree of C01
  (`serialized_request_is_signedCsr`).
-/
namespace Rcgen.Theorems.C07
open Rcgen.Model

/-- the refusal rule, stated outright: exactly the five CSR-inexpressible fields -/
theorem unsupported_iff (p : CertParams) :
    csrUnsupported p = true ↔
      (p.serial.isSome = true ∨ p.isCa ≠ .noCa ∨ p.nameConstraints.isSome = true ∨
       p.crlDps ≠ [] ∨ p.useAki = true) := by
  simp only [csrUnsupported, Bool.or_eq_true, bne_iff_ne, ne_eq, Bool.not_eq_true',
    List.isEmpty_eq_false_iff, or_assoc]

/-- parameters a CSR cannot express cause `UnsupportedInCsr`, whatever else is set, whatever
    the key and the signer: nothing is silently dropped -/
theorem csr_refused_if_unsupported (p : CertParams) (s : PubKey) (attrs : List Attribute)
    (sign : Signer) (h : csrUnsupported p = true) :
    serializeRequest p s attrs sign = .err .unsupportedInCsr := by
  unfold serializeRequest; simp [h]

/-- and only those: with none of the five set the request is produced (given encodable OIDs
    and a signer that succeeds), and it is exactly the signed `csrInfo` -/
theorem csr_produced_otherwise (p : CertParams) (s : PubKey) (attrs : List Attribute)
    (sign : Signer) (h : csrUnsupported p = false) (hv : csrInvalid p attrs = none)
    (hp : csrPanics p attrs = false) (sig : Bytes)
    (hs : sign (encode (csrInfo p s attrs)) = .ok sig) :
    serializeRequest p s attrs sign =
      .ok (.seq [csrInfo p s attrs, algIdent s.alg, .bitStringOctets sig]) := by
  unfold serializeRequest signDer
  simp [h, hv, hp, hs]

/-- the request always carries version 0, the subject, the requester's SubjectPublicKeyInfo
    and the `[0]` attributes field (present even when empty) -/
theorem csr_shape (p : CertParams) (s : PubKey) (attrs : List Attribute) :
    csrInfo p s attrs =
      .seq [.intOfNat 0, writeDistinguishedName p.dn, spkiNode s,
            .cons 2 0 (sortByEncoding (csrAttributes p attrs))] := rfl

/-- at most one extension request, present iff one of the four CSR-expressible extension
    fields is non-empty; every caller attribute follows, values embedded as given -/
theorem csr_attributes (p : CertParams) (attrs : List Attribute) :
    csrAttributes p attrs =
      (if writeExtensionRequest p then [extensionRequestAttr p] else []) ++
      attrs.map (fun a => Asn1.seq [.oid a.oid, .raw a.values]) := rfl

theorem extension_request_iff (p : CertParams) :
    writeExtensionRequest p = true ↔
      (p.keyUsages ≠ [] ∨ p.sans ≠ [] ∨ p.ekus ≠ [] ∨ p.customExts ≠ []) := by
  simp only [writeExtensionRequest, Bool.or_eq_true, Bool.not_eq_true', List.isEmpty_eq_false_iff,
    ne_eq, or_assoc]

/-- caller-supplied attribute values are embedded byte for byte -/
theorem attribute_values_verbatim (a : Attribute) :
    encode (attrNode a) = encode (.cons 0 16 [.oid a.oid, .raw a.values]) ∧
    encode (Asn1.raw a.values) = a.values := ⟨rfl, rfl⟩

/-- "each caller-supplied attribute value is the DER encoding of a SET": the witness `vals`
    gives, for each attribute, a tree that encodes to the supplied bytes -/
abbrev ValuesAreDer := Proofs.CsrDecode.ValuesAreDer

/-- **a CSR says exactly what its parameters say.**  For every parameter set that is not
    refused, every subject key and every list of caller attributes whose values are DER SETs:
    strict DER decoding of the certificationRequestInfo followed by the RFC 2986 readers yields
    version 0, the subject name as the enumeration of the name, the RFC SubjectPublicKeyInfo,
    every caller attribute with its value bytes verbatim (as many times as supplied), and —
    exactly when a key usage, SAN, EKU or custom extension is requested — exactly one further
    attribute, the extension request, whose extensions are exactly the requested ones; otherwise
    no further attribute.  The attribute SET OF is written sorted, so the statement is up to
    permutation, which the clause list counts occurrence by occurrence.  Any number of
    attributes, in any order, with repetitions. -/
theorem csr_decodes_to_request (i : Spec.CsrInputs) (vals : Attribute → Asn1)
    (hv : ValuesAreDer i.attrs vals)
    (hnp : csrPanics i.p i.attrs = false)
    (hc : ∀ e ∈ i.p.customExts, e.oid ∉ Proofs.X509.knownOids)
    (hsize : (encode (csrInfo i.p i.subject i.attrs)).length < 256 ^ 126) :
    Spec.c07Clauses i (encode (csrInfo i.p i.subject i.attrs)) = [] :=
  Proofs.CsrDecode.c07_clauses_hold i vals hv hnp hc hsize

/-- the typed record itself: the decoded attributes are the sorted attribute nodes, read -/
theorem csr_decodes_to_record (i : Spec.CsrInputs) (vals : Attribute → Asn1)
    (hv : ValuesAreDer i.attrs vals)
    (hnp : csrPanics i.p i.attrs = false)
    (hsize : (encode (csrInfo i.p i.subject i.attrs)).length < 256 ^ 126) :
    Spec.decodeCsrInfo (encode (csrInfo i.p i.subject i.attrs)) = some (Proofs.CsrDecode.modelCsr i) :=
  Proofs.CsrDecode.csr_decodes i vals hv hnp hsize

/-- and they are a permutation of (the extension request, if any) followed by the caller's -/
theorem csr_attributes_are_a_permutation (i : Spec.CsrInputs)
    (hoids : ∀ a ∈ i.attrs, oidOk a.oid = true) :
    (Proofs.CsrDecode.modelCsr i).attrs.Perm
      (Proofs.CsrDecode.extReqSem i ++ Proofs.CsrDecode.callerAttrs i) :=
  Proofs.CsrDecode.attrs_perm i hoids

/-- stated on the public entry point -/
theorem issued_csr_decodes_to_request (i : Spec.CsrInputs) (vals : Attribute → Asn1)
    (sign : Signer) (t : Asn1)
    (h : serializeRequest i.p i.subject i.attrs sign = .ok t)
    (hv : ValuesAreDer i.attrs vals)
    (hc : ∀ e ∈ i.p.customExts, e.oid ∉ Proofs.X509.knownOids)
    (hsize : (encode (csrInfo i.p i.subject i.attrs)).length < 256 ^ 126) :
    Spec.c07Clauses i (encode (csrInfo i.p i.subject i.attrs)) = [] :=
  csr_decodes_to_request i vals hv (Proofs.Issue.serializeRequest_ok h).2.2.1 hc hsize

/-- **parsing a generated request back returns what it was generated from** (the round-trip
    clause).  For every parameter set without custom extensions (the parser documents those as
    unsupported), every list of caller attributes other than an extension request, every key,
    signature and third-party verifier: whatever `CertificateSigningRequestParams::from_der`
    returns for the generated request has the generating subject name, the key usages as a set
    (in declaration order), the subject alternative names, exactly the standard purposes among
    the requested extended key usages, and the requester's public key with its algorithm.
    Alternative names are values of the validated types (IP addresses of 4 or 16 octets,
    otherName text valid UTF-8). -/
theorem csr_round_trip (p521 crypto : Bool) (verify : Bytes → Bytes → Bytes → Bytes → Bool)
    (i : Spec.CsrInputs) (vals : Attribute → Asn1) (sig : Bytes) (r : CsrParsed)
    (hv : ValuesAreDer i.attrs vals)
    (hnp : csrPanics i.p i.attrs = false)
    (hne : ∀ a ∈ i.attrs, a.oid ≠ extensionRequestOid)
    (hcustom : i.p.customExts = [])
    (hip : ∀ o, SanType.ip o ∈ i.p.sans → o.length = 4 ∨ o.length = 16)
    (hother : ∀ oid v, SanType.otherName oid v ∈ i.p.sans → Spec.utf8Valid v = true ∧ ∀ x ∈ oid, x < 2 ^ 64)
    (hsize : (encode (Proofs.Canon.Csr.signedCsr i sig)).length < 256 ^ 126)
    (h : parseCsr p521 crypto verify (encode (Proofs.Canon.Csr.signedCsr i sig)) = .ok r) :
    Spec.reqName r.params.dn.iter = Spec.reqName i.p.dn.iter ∧
    r.params.keyUsages = KeyUsage.all.filter (fun k => i.p.keyUsages.contains k) ∧
    r.params.sans = i.p.sans ∧
    (∀ e, e ∈ r.params.ekus ↔ (e ∈ stdEkus ∧ ∃ x ∈ i.p.ekus, Spec.rfcEkuOid x = e.oid)) ∧
    r.key = i.subject := by
  -- `hip`, `hother` are not needed: a request that is accepted has importable names
  exact Proofs.CsrRoundTrip.parse_of_generated p521 crypto verify i vals sig r hv hnp hne hcustom hsize h

/-- the same request is what `serialize_request_with_attributes` returns: the signed tree of
    C01 around the certificationRequestInfo -/
theorem serialized_request_is_signedCsr (i : Spec.CsrInputs) (sign : Signer) (t : Asn1)
    (h : serializeRequest i.p i.subject i.attrs sign = .ok t) :
    ∃ sig, t = Proofs.Canon.Csr.signedCsr i sig ∧
      sign (encode (csrInfo i.p i.subject i.attrs)) = .ok sig :=
  C01.csr_signed_by_subject i.p i.subject i.attrs sign t h

/-! non-vacuity of `csr_round_trip`: a request with a name, a SAN, repeated key usages and two
    extended key usages parses back (the hypothesis `h` is satisfiable) -/
def exRt : Spec.CsrInputs :=
  { p := { (default : CertParams) with
           sans := [.dns [0x61], .ip [10, 0, 0, 1]],
           keyUsages := [.keyEncipherment, .digitalSignature, .keyEncipherment],
           ekus := [.clientAuth, .serverAuth],
           dn := ((DistinguishedName.new.push .org (.printable [0x4f])).push .commonName (.utf8 [0x61])) },
    subject := ⟨.ed25519, List.replicate 32 7⟩, attrs := [] }

example : (match parseCsr false true (fun _ _ _ _ => true)
      (encode (Proofs.Canon.Csr.signedCsr exRt (List.replicate 64 9))) with
    | .ok r => r.params.keyUsages == [.digitalSignature, .keyEncipherment] &&
        r.params.ekus == [.serverAuth, .clientAuth] && r.key == exRt.subject &&
        r.params.sans == exRt.p.sans
    | .error _ => false) = true := by decide +kernel

/-! non-vacuity of `csr_decodes_to_request`: two caller attributes given out of sorted order
    (one of them twice), a SAN, a repeated key usage and a custom extension -/
def exVal (b : Bytes) : Asn1 := .cons 0 17 [.prim 0 12 b]
def exAttrs : List Attribute :=
  [⟨[1, 2, 840, 113549, 1, 9, 7], encode (exVal [0x7a, 0x7a])⟩,
   ⟨[1, 2, 840, 113549, 1, 9, 2], encode (exVal [0x61])⟩,
   ⟨[1, 2, 840, 113549, 1, 9, 7], encode (exVal [0x7a, 0x7a])⟩]
def exVals (a : Attribute) : Asn1 :=
  if a.values = encode (exVal [0x61]) then exVal [0x61] else exVal [0x7a, 0x7a]
def exCsr : Spec.CsrInputs :=
  { p := { (default : CertParams) with
           sans := [.dns [0x61]], keyUsages := [.digitalSignature, .digitalSignature],
           customExts := [⟨[1, 2, 3, 4], false, [5, 0]⟩],
           dn := (DistinguishedName.new.push .commonName (.utf8 [0x61])) },
    subject := ⟨.ecdsaP256, [4, 1, 2]⟩, attrs := exAttrs }

example : ValuesAreDer exAttrs exVals where
  shape := by intro a _; unfold exVals; split <;> exact ⟨_, rfl⟩
  tags := by intro a _; unfold exVals; split <;> decide
  enc := by
    intro a ha
    simp only [exAttrs, List.mem_cons, List.not_mem_nil, or_false] at ha
    rcases ha with rfl | rfl | rfl <;> decide
example : csrPanics exCsr.p exCsr.attrs = false := by decide +kernel
example : ∀ e ∈ exCsr.p.customExts, e.oid ∉ Proofs.X509.knownOids := by decide
example : (encode (csrInfo exCsr.p exCsr.subject exCsr.attrs)).length < 256 ^ 126 := by
  rw [Proofs.CsrDecode.csrInfo_length]; decide +kernel

/-! non-vacuity of `unsupported_iff`: both verdicts occur -/
example : csrUnsupported { (default : CertParams) with useAki := true } = true := by decide
example : csrUnsupported (default : CertParams) = false := by decide

end Rcgen.Theorems.C07
