import Rcgen.Proofs.CrlDecode
import Rcgen.Theorems.C02
import Rcgen.Proofs.Issue
/-
  C08 — a CRL revokes exactly the listed certificates and says what was asked.
  This file: the refusal rules, the shape of the list, and `crl_decodes_to_request`: the full
  typed decode of the TBSCertList (assembled in Proofs/CrlDecode.lean); time fields are C09's.
-/
namespace Rcgen.Theorems.C08
open Rcgen.Model

/-- no CRL is produced unless the instants, truncated to whole seconds — which is what gets
    encoded (C09) — are strictly ordered, and the issuer's declared key usages, if any,
    include cRLSign -/
theorem crl_refusals (H : Hashes) (p : CrlParams) (i : Issuer) (sign : Signer) (t : Asn1)
    (h : issueCrl H p i sign = .ok t) :
    p.thisUpdate.epochSeconds < p.nextUpdate.epochSeconds ∧
    (i.keyUsages = [] ∨ KeyUsage.crlSign ∈ i.keyUsages) := by
  obtain ⟨h1, h2, -⟩ := Proofs.Issue.issueCrl_ok h
  exact ⟨(Proofs.CrlDecode.crlNextUpdateInvalid_eq_false p).1 h1,
    by simpa using (Proofs.CrlDecode.crlIssuerNotSigner_eq_false i).1 h2⟩

/-- hence the *encoded* nextUpdate is later than the *encoded* thisUpdate -/
theorem encoded_next_after_this (H : Hashes) (p : CrlParams) (i : Issuer) (sign : Signer)
    (t : Asn1) (h : issueCrl H p i sign = .ok t)
    (hy1 : 0 ≤ C09.utcYear p.thisUpdate ∧ C09.utcYear p.thisUpdate ≤ 9999)
    (hy2 : 0 ≤ C09.utcYear p.nextUpdate ∧ C09.utcYear p.nextUpdate ≤ 9999) :
    ∃ a b fa fb, Spec.asTime (writeTime p.thisUpdate) = some (fa, a) ∧
      Spec.asTime (writeTime p.nextUpdate) = some (fb, b) ∧ a < b := by
  obtain ⟨hlt, _⟩ := crl_refusals H p i sign t h
  exact ⟨_, _, _, _, C09.time_same_instant _ hy1, C09.time_same_instant _ hy2, hlt⟩

/-- the two refusals are errors, never panics or partial output -/
theorem crl_refused_next_update (H : Hashes) (p : CrlParams) (i : Issuer) (sign : Signer)
    (h : p.nextUpdate.epochSeconds ≤ p.thisUpdate.epochSeconds) :
    issueCrl H p i sign = .err .invalidCrlNextUpdate := by
  unfold issueCrl crlNextUpdateInvalid
  simp [h]

theorem crl_refused_not_signer (H : Hashes) (p : CrlParams) (i : Issuer) (sign : Signer)
    (h1 : p.thisUpdate.epochSeconds < p.nextUpdate.epochSeconds)
    (h2 : i.keyUsages ≠ []) (h3 : KeyUsage.crlSign ∉ i.keyUsages) :
    issueCrl H p i sign = .err .issuerNotCrlSigner := by
  unfold issueCrl
  simp [(Proofs.CrlDecode.crlNextUpdateInvalid_eq_false p).2 h1, crlIssuerNotSigner, h2, h3]

/-- TBSCertList: v2, signature algorithm, issuer name, the two times, the entries only when
    there are some, then the `[0]` extensions with AKI and CRL number always present -/
theorem crl_shape (H : Hashes) (p : CrlParams) (i : Issuer) :
    tbsCertList H p i =
      .seq ([Asn1.intOfNat 1, algIdent i.key.alg, writeDistinguishedName i.dn,
             writeTime p.thisUpdate, writeTime p.nextUpdate] ++
            (if p.revoked.isEmpty then [] else [Asn1.seq (p.revoked.map revokedNode)]) ++
            [Asn1.explicit 0 (.seq (crlExtensions H p i))]) := rfl

/-- one entry per revoked certificate, in the order given -/
theorem one_entry_per_revoked (p : CrlParams) :
    (p.revoked.map revokedNode).length = p.revoked.length := by simp

/-- reason absent and `unspecified` without an invalidity date produce the same entry -/
theorem unspecified_eq_absent (s : Bytes) (t : DateTime) :
    revokedNode ⟨s, t, some .unspecified, none⟩ = revokedNode ⟨s, t, none, none⟩ := by
  simp [revokedNode]

/-- the invalidity date is always written by the GeneralizedTime writer -/
theorem invalidity_date_generalized (dt : DateTime) :
    ∃ c, invalidityDateNode dt = .prim 0 24 c := ⟨_, rfl⟩

/-- **a CRL says exactly what its parameters say.**  For every parameter set, issuer and hash
    family: when the CRL is not refused and validation passes, strict DER decoding of the
    to-be-signed bytes followed by the RFC 5280 §5 readers yields exactly the request — the
    issuer name, both update instants (nextUpdate later than thisUpdate as encoded), the CRL
    number, the authority key identifier as the configured digest of the issuer's
    SubjectPublicKeyInfo, the issuing distribution point (URIs and scope flag) exactly when
    requested and no other CRL extension, and one entry per revoked certificate, in order, with
    that serial, that revocation instant, the reason code (absent ≡ unspecified) and the
    invalidity date as GeneralizedTime, and no other entry extension.  Any number of entries,
    serials and URIs of any length. -/
theorem crl_decodes_to_request (i : Spec.CrlInputs)
    (hn : crlNextUpdateInvalid i.p = false)
    (hs : crlIssuerNotSigner i.issuer = false)
    (hinv : crlInvalid i.p i.issuer = none)
    (hnp : crlPanics i.p i.issuer = false)
    (hsize : (encode (tbsCertList i.H i.p i.issuer)).length < 256 ^ 126) :
    Spec.c08Clauses i (encode (tbsCertList i.H i.p i.issuer)) = [] :=
  -- `hnp` is not needed: what the decode uses of it is established by the validation `hinv`
  Proofs.CrlDecode.c08_clauses_hold i hn hs hinv hsize

/-- the typed record itself -/
theorem crl_decodes_to_record (i : Spec.CrlInputs)
    (hinv : crlInvalid i.p i.issuer = none)
    (hnp : crlPanics i.p i.issuer = false)
    (hsize : (encode (tbsCertList i.H i.p i.issuer)).length < 256 ^ 126) :
    Spec.decodeTbsCrl (encode (tbsCertList i.H i.p i.issuer)) = some (Proofs.CrlDecode.modelCrl i) :=
  -- `hnp` is not needed, as above
  Proofs.CrlDecode.tbsCrl_decodes i hinv hsize

/-- stated on the public entry point: whatever CRL `issueCrl` returns decodes to the request -/
theorem issued_crl_decodes_to_request (i : Spec.CrlInputs) (sign : Signer) (t : Asn1)
    (h : issueCrl i.H i.p i.issuer sign = .ok t)
    (hsize : (encode (tbsCertList i.H i.p i.issuer)).length < 256 ^ 126) :
    Spec.c08Clauses i (encode (tbsCertList i.H i.p i.issuer)) = [] :=
  have ⟨h1, h2, h3, h4, _⟩ := Proofs.Issue.issueCrl_ok h
  crl_decodes_to_request i h1 h2 h3 h4 hsize

/-- every time field of the CRL — thisUpdate, nextUpdate, each revocationDate — decodes to the
    same instant in the RFC 5280 form (C09 on the whole artefact) -/
theorem crl_time_fields_decode (i : Spec.CrlInputs)
    (hinv : crlInvalid i.p i.issuer = none)
    (hnp : crlPanics i.p i.issuer = false)
    (hsize : (encode (tbsCertList i.H i.p i.issuer)).length < 256 ^ 126) :
    Spec.c09CrlClauses i (encode (tbsCertList i.H i.p i.issuer)) = [] := by
  unfold Spec.c09CrlClauses
  rw [crl_decodes_to_record i hinv hnp hsize]
  simp only [List.append_eq_nil_iff, Proofs.X509.clause_eq_nil, and_assoc,
    Proofs.CrlDecode.modelCrl_entries]
  exact ⟨Proofs.CertDecode.timeFieldOk_reqTime _, Proofs.CertDecode.timeFieldOk_reqTime _,
    Proofs.CrlDecode.revocationDates_ok _⟩

/-! non-vacuity of `crl_decodes_to_request`: three entries (reason only, invalidity date only,
    `unspecified` with a date), an issuing distribution point with a scope, dates in offsets -/
def exCrl : Spec.CrlInputs :=
  { H := ⟨fun _ => List.replicate 32 7, fun _ => List.replicate 48 7, fun _ => List.replicate 64 7⟩,
    p := { thisUpdate := ⟨2024, 1, 1, 0, 0, 0, 5, 3600⟩, nextUpdate := ⟨2051, 1, 1, 0, 0, 0, 0, -7200⟩,
           crlNumber := [0, 200], idp := some ⟨[[0x68]], some .caCertsOnly⟩,
           revoked := [⟨[1], ⟨2023, 5, 5, 1, 2, 3, 0, 0⟩, some .keyCompromise, none⟩,
                       ⟨[0, 255], ⟨1949, 5, 5, 1, 2, 3, 0, 0⟩, none, some ⟨2022, 1, 1, 0, 0, 0, 0, 0⟩⟩,
                       ⟨[3], ⟨2023, 5, 5, 1, 2, 3, 0, 0⟩, some .unspecified, some ⟨2050, 1, 1, 0, 0, 0, 0, 0⟩⟩],
           keyIdMethod := .sha512 },
    issuer := { dn := (DistinguishedName.new.push .commonName (.utf8 [0x61])), keyIdMethod := .sha256,
                keyUsages := [.crlSign], key := ⟨.ecdsaP256, [4, 1, 2]⟩ } }

example : crlNextUpdateInvalid exCrl.p = false := by decide +kernel
example : crlIssuerNotSigner exCrl.issuer = false := by decide
example : crlInvalid exCrl.p exCrl.issuer = none := by decide +kernel
example : crlPanics exCrl.p exCrl.issuer = false := by decide +kernel
example : (encode (tbsCertList exCrl.H exCrl.p exCrl.issuer)).length < 256 ^ 126 := by decide +kernel

/-- **revoked if and only if listed.**  A revocation checker reading the decoded list reports
    a serial number as revoked exactly when one of the listed certificates has it — as a number:
    leading zero octets of the caller's serial bytes do not matter, on either side -/
theorem revoked_iff_listed (i : Spec.CrlInputs)
    (hinv : crlInvalid i.p i.issuer = none)
    (hnp : crlPanics i.p i.issuer = false)
    (hsize : (encode (tbsCertList i.H i.p i.issuer)).length < 256 ^ 126) (n : Nat) :
    ∃ c, Spec.decodeTbsCrl (encode (tbsCertList i.H i.p i.issuer)) = some c ∧
      (Spec.isRevoked c n = true ↔ ∃ r ∈ i.p.revoked, ofBe r.serial = n) := by
  refine ⟨_, crl_decodes_to_record i hinv hnp hsize, ?_⟩
  unfold Spec.isRevoked
  rw [Proofs.CrlDecode.modelCrl_entries]
  simp only [List.any_map, List.any_eq_true, Function.comp, Proofs.CrlDecode.modelEntry, beq_iff_eq]

/-- **a certificate rcgen issued is revoked by a CRL rcgen issued exactly when its serial number
    was listed**: the serial number an RFC 5280 reader finds in the certificate (C02) is revoked
    according to the decoded CRL iff some listed serial denotes the same integer as the
    certificate's -/
theorem issued_certificate_revoked_iff_listed (i : Spec.CrlInputs) (ci : Spec.CertInputs)
    (serial : Bytes) (hser : ci.p.serial = some serial)
    (hinv : crlInvalid i.p i.issuer = none) (hnp : crlPanics i.p i.issuer = false)
    (hsize : (encode (tbsCertList i.H i.p i.issuer)).length < 256 ^ 126)
    (cinv : certInvalid ci.p ci.issuer = none) (cnp : certPanics ci.p ci.issuer = false)
    (chc : ∀ e ∈ ci.p.customExts, e.oid ∉ C02.interpretedOids)
    (csize : (encode (tbsCertificate ci.H ci.p ci.subject ci.issuer)).length < 256 ^ 126) :
    ∃ crl cert, Spec.decodeTbsCrl (encode (tbsCertList i.H i.p i.issuer)) = some crl ∧
      Spec.decodeTbsCert (encode (tbsCertificate ci.H ci.p ci.subject ci.issuer)) = some cert ∧
      (Spec.isRevoked crl cert.serial = true ↔ ∃ r ∈ i.p.revoked, ofBe r.serial = ofBe serial) := by
  obtain ⟨crl, hcrl, hiff⟩ := revoked_iff_listed i hinv hnp hsize (ofBe serial)
  refine ⟨crl, _, hcrl, C02.cert_decodes_to_record ci cinv cnp chc csize, ?_⟩
  have : (Proofs.CertDecode.modelTbs ci).serial = ofBe serial := by
    simp [Proofs.CertDecode.modelTbs, Spec.reqSerial, hser]
  rw [this]; exact hiff

-- the example list revokes 1, 255 (given as 00 ff) and 3, and nothing else
example : ∃ c, Spec.decodeTbsCrl (encode (tbsCertList exCrl.H exCrl.p exCrl.issuer)) = some c ∧
    Spec.isRevoked c 255 = true ∧ Spec.isRevoked c 2 = false := by
  refine ⟨_, crl_decodes_to_record exCrl (by decide +kernel) (by decide +kernel) (by decide +kernel), ?_, ?_⟩ <;>
    decide +kernel

/-! non-vacuity: thisUpdate = t+0.1 s, nextUpdate = t+0.9 s is refused -/
example : crlNextUpdateInvalid
    { thisUpdate := ⟨2023, 1, 1, 0, 0, 0, 100000000, 0⟩,
      nextUpdate := ⟨2023, 1, 1, 0, 0, 0, 900000000, 0⟩,
      crlNumber := [1], idp := none, revoked := [], keyIdMethod := .sha256 } = true := by decide

end Rcgen.Theorems.C08
