import Rcgen.Proofs.Time
import Rcgen.Model.Crl
import Rcgen.Spec.Props
import Rcgen.Proofs.Ctor
/-
  C09 — every time value is encoded as the same instant in the form RFC 5280 requires.
  Model: `writeTime` (Model/Time.lean) = lib.rs `write_dt_utc_or_generalized` composed with
  yasna's `from_datetime`/`to_bytes` and time's `to_offset`.
  Spec: `Spec.asTime` (RFC 5280 §4.1.2.5 parsers) and `Spec.timeFieldOk`.
  `utcYear` is declared in Proofs/Time.lean (as `Theorems.C09.utcYear`): the lemmas there state
  their results with it, and this file imports them.
  Proofs/CertDecode.lean imports this file (for `time_same_instant`), so it must not import that
  module or anything above it.
-/
namespace Rcgen.Theorems.C09
open Rcgen.Model Rcgen.Spec

/-- **same instant, right form**: for every date-time whose UTC year lies in 0..=9999 — any
    offset, any sub-second part — the encoded value decodes to the instant truncated to whole
    seconds, as UTCTime exactly when the UTC year is in 1950..=2049, GeneralizedTime otherwise -/
theorem time_same_instant (dt : DateTime) (hy : 0 ≤ utcYear dt ∧ utcYear dt ≤ 9999) :
    asTime (writeTime dt) =
      some (if 1950 ≤ utcYear dt ∧ utcYear dt ≤ 2049 then TimeForm.utc else TimeForm.generalized,
            dt.epochSeconds) := by
  rw [writeTime_eq]
  by_cases hform : 1950 ≤ utcYear dt ∧ utcYear dt ≤ 2049
  · rw [if_pos hform, if_pos hform]
    exact asTime_utcTime dt hform
  · rw [if_neg hform, if_neg hform]
    exact asTime_genTime dt hy

/-- the executable clause the driver evaluates on real certificates holds of the model -/
theorem time_field_ok (dt : DateTime) (hy : 0 ≤ utcYear dt ∧ utcYear dt ≤ 9999) :
    ∃ got, asTime (writeTime dt) = some got ∧ timeFieldOk dt got = true := by
  refine ⟨_, time_same_instant dt hy, ?_⟩
  -- the clause computes the year as `utcYear` does: the two sides of each `==` are the same term
  unfold timeFieldOk utcYear
  simp only [beq_self_eq_true, Bool.and_self]

/-- **form**: UTCTime exactly when the UTC year is in 1950..=2049; the text is 13 resp. 15
    octets ending in `Z` (seconds present, no fraction: `YYMMDDHHMMSSZ` / `YYYYMMDDHHMMSSZ`) -/
theorem time_form (dt : DateTime) :
    (∃ c, writeTime dt = .prim 0 23 c ∧ c.length = 13 ∧ c[12]? = some 90 ∧
        (1950 ≤ utcYear dt ∧ utcYear dt ≤ 2049)) ∨
    (∃ c, writeTime dt = .prim 0 24 c ∧ c.length = 15 ∧ c[14]? = some 90 ∧
        ¬ (1950 ≤ utcYear dt ∧ utcYear dt ≤ 2049)) := by
  rw [writeTime_eq]
  by_cases hform : 1950 ≤ utcYear dt ∧ utcYear dt ≤ 2049
  · rw [if_pos hform]
    exact Or.inl ⟨_, rfl, (utcTimeBytes_shape _).1, (utcTimeBytes_shape _).2, hform⟩
  · rw [if_neg hform]
    exact Or.inr ⟨_, rfl, (genTimeBytes_shape _).1, (genTimeBytes_shape _).2, hform⟩

/-- **offset independence**: two date-times denoting the same instant up to the sub-second
    part (whatever their offsets and nanoseconds) are encoded identically -/
theorem time_offset_independent (a b : DateTime) (h : a.epochSeconds = b.epochSeconds) :
    writeTime a = writeTime b := by
  unfold writeTime formYear DateTime.toUtc
  rw [h]

/-- the always-GeneralizedTime writer (CRL invalidity date) denotes the same instant too -/
theorem generalized_same_instant (dt : DateTime) (hy : 0 ≤ utcYear dt ∧ utcYear dt ≤ 9999) :
    asTime (writeGeneralized dt) = some (TimeForm.generalized, dt.epochSeconds) :=
  asTime_genTime dt hy

/-- `check_time` admits exactly the date-times whose UTC year lies in 0..=9999 -/
theorem encodable_iff_utc_year (dt : DateTime) :
    timeEncodable dt = true ↔ (0 ≤ utcYear dt ∧ utcYear dt ≤ 9999) :=
  timeEncodable_iff_utcYear dt

/-- the five fields written with `writeTime`: two here, three in `crl_fields_use_writeTime` -/
theorem fields_use_writeTime (H : Hashes) (p : CertParams) (s : PubKey) (i : Issuer) :
    (tbsCertificateFields H p s i)[4]? = some (.seq [writeTime p.notBefore, writeTime p.notAfter]) := by
  simp [tbsCertificateFields]

theorem crl_fields_use_writeTime (H : Hashes) (p : CrlParams) (i : Issuer) :
    ∃ rest, tbsCertList H p i =
      .seq (Asn1.intOfNat 1 :: algIdent i.key.alg :: writeDistinguishedName i.dn ::
            writeTime p.thisUpdate :: writeTime p.nextUpdate :: rest) ∧
    ∀ r ∈ p.revoked, ∃ tail, revokedNode r =
      .seq (Asn1.intOfBytes r.serial :: writeTime r.revocationTime :: tail) := by
  refine ⟨_, ⟨rfl, ?_⟩⟩
  intro r _
  exact ⟨_, rfl⟩

/-! non-vacuity: 2049-12-31 23:30 at −01:00 is a 2050 instant: GeneralizedTime; and its
    hypothesis (UTC year within 0..=9999) is satisfiable -/
example : encode (writeTime ⟨2049, 12, 31, 23, 30, 0, 5, -3600⟩) =
    [24, 15, 50,48,53,48,48,49,48,49,48,48,51,48,48,48,90] := by decide
example : 0 ≤ utcYear ⟨2049, 12, 31, 23, 30, 0, 5, -3600⟩ ∧
    utcYear ⟨2049, 12, 31, 23, 30, 0, 5, -3600⟩ ≤ 9999 := by decide

/-- **`date_time_ymd`**: for every calendar date that exists (month 1..=12, a day the month has,
    year within time's −9999..=9999) the value handed to the writers is midnight UTC of that
    day — offset zero, no sub-second part, the instant `86400 · daysFromCivil y m d`; for every
    other triple it is the announced panic -/
theorem ymd_is_midnight_utc (y : Int) (m d : Nat) :
    (∀ dt, dateTimeYmd y m d = some dt →
      dt.epochSeconds = daysFromCivil y m d * 86400 ∧ dt.offset = 0 ∧ dt.nanos = 0 ∧
      dt.year = y ∧ dt.month = m ∧ dt.day = d) ∧
    ((dateTimeYmd y m d).isSome ↔
      (-9999 ≤ y ∧ y ≤ 9999 ∧ 1 ≤ m ∧ m ≤ 12 ∧ 1 ≤ d ∧ d ≤ daysInMonth y m)) := by
  refine ⟨fun dt h => ?_, dateTimeYmd_isSome y m d⟩
  cases dateTimeYmd_eq_some h
  simp [DateTime.epochSeconds]

/-- … and it is *written* as that day: converted to UTC it is `y-m-d 00:00:00`, so for a year
    within 0..=9999 the encoded time is `[YY]YYMMDD000000Z` — UTCTime exactly for 1950..=2049 -/
theorem ymd_written_as_that_day (y : Int) (m d : Nat) (dt : DateTime)
    (h : dateTimeYmd y m d = some dt) :
    dt.toUtc = ⟨y, m, d, 0, 0, 0⟩ ∧
    writeTime dt = (if 1950 ≤ y ∧ y < 2050 then .utcTime (utcTimeBytes ⟨y, m, d, 0, 0, 0⟩)
                    else .genTime (genTimeBytes ⟨y, m, d, 0, 0, 0⟩)) := by
  obtain ⟨-, -, hm1, hm2, hd1, hd2⟩ := (dateTimeYmd_isSome y m d).1 (by rw [h]; rfl)
  have hu : dt.toUtc = ⟨y, m, d, 0, 0, 0⟩ := by
    unfold DateTime.toUtc
    rw [((ymd_is_midnight_utc y m d).1 dt h).1]
    exact utcOfEpoch_midnight y m d hm1 hm2 hd1 hd2
  refine ⟨hu, ?_⟩
  unfold writeTime formYear
  rw [hu]

example : (dateTimeYmd 2049 12 31).map (fun dt => encode (writeTime dt)) =
    some [23, 13, 52,57,49,50,51,49,48,48,48,48,48,48,90] := by decide +kernel

example : (dateTimeYmd 2000 2 29).map DateTime.epochSeconds = some 951782400 := by decide
example : dateTimeYmd 1900 2 29 = none := by decide

end Rcgen.Theorems.C09
