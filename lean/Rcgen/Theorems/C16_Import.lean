import Rcgen.Proofs.ImportDecode
/-
  C16, the crypto-less build's certificate import (`from_ca_cert_der` with `x509-parser` on and
  no back end): same namespace as C16.lean.  The three theorems read off
  `Proofs.ImportDecode.importCa_cryptoless`.
-/
namespace Rcgen.Theorems.C16
open Rcgen.Model Rcgen.Spec

/-- **the crypto-less build never makes up a key identifier**: with no back end there is no
    digest, so what `from_ca_cert_der` hands out there always carries the identifier the
    certificate itself states (a pre-specified one: the first subjectKeyIdentifier it has) -/
theorem cryptoless_import_keeps_stated_key_identifier (c : TbsCert) (p : CertParams)
    (h : importCa false c = .ok p) :
    ∃ b rest, c.exts.filterMap skiOf = b :: rest ∧ p.keyIdMethod = .preSpecified b :=
  ((Proofs.ImportDecode.importCa_cryptoless c p).1 h).2

/-- ... and a certificate that states none is refused there, whatever else it contains (the
    crypto builds fall back to SHA-256 of the key instead) -/
theorem cryptoless_import_refuses_without_key_identifier (c : TbsCert)
    (h : c.exts.filterMap skiOf = []) : ∀ p, importCa false c ≠ .ok p := by
  intro p hp
  obtain ⟨b, rest, hb, -⟩ := cryptoless_import_keeps_stated_key_identifier c p hp
  cases h.symm.trans hb

/-- the two kinds of build differ on nothing else: where the crypto-less import succeeds, the
    import with a back end returns the very same parameters -/
theorem cryptoless_import_agrees_with_crypto_import (c : TbsCert) (p : CertParams)
    (h : importCa false c = .ok p) : importCa true c = .ok p :=
  ((Proofs.ImportDecode.importCa_cryptoless c p).1 h).1

/-! non-vacuity: a CA certificate with a subject key identifier is imported without a back end;
    the same certificate without its extensions is not -/
example : ∃ p', importCa false C03.exCa = .ok p' ∧ p'.keyIdMethod = .preSpecified [1,2,3] :=
  ⟨_, rfl, rfl⟩
example : (match importCa false { C03.exCa with exts := [] } with
    | .error .unsupportedSignatureAlgorithm => true
    | _ => false) = true := by rfl

end Rcgen.Theorems.C16
