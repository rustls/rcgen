import Rcgen.Proofs.Name
import Rcgen.Model.Sign
/-
  C15 — generation is a pure function of its inputs: deterministic and thread-safe.
  What a Lean model can carry: (1) the `HashMap` inside `DistinguishedName` has *no*
  observable iteration order — enumeration, lookup, the encoded name and hence every TBS
  are invariant under any reordering of the map's entries (different hash seeds, different
  processes); (2) in the state machine whose shared state is read by generation calls of N
  workers, every interleaving gives each call the output it has when run alone and leaves the
  shared state as it was.  Real data races / FFI are outside the model (sampled by the check).
-/
namespace Rcgen.Theorems.C15
open Rcgen.Model Rcgen.Model.DistinguishedName

theorem lookup_eq_some_iff_mem (es : Entries) (hnd : (keys es).Nodup) (t : DnType) (v : DnValue) :
    es.lookup t = some v ↔ (t, v) ∈ es := by
  -- `lookup` returns the first entry under `t`; without repeated keys every entry under `t` is the first
  rw [List.lookup_eq_some_iff]
  constructor
  · rintro ⟨l₁, l₂, rfl, -⟩
    exact List.mem_append_right _ List.mem_cons_self
  · intro h
    obtain ⟨l₁, l₂, rfl⟩ := List.append_of_mem h
    rw [keys, List.map_append, List.nodup_append] at hnd
    exact ⟨l₁, l₂, rfl, fun p hp => bne_iff_ne.2 fun e =>
      hnd.2.2 p.1 (List.mem_map_of_mem hp) t List.mem_cons_self e.symm⟩

/-- lookup in a map does not depend on the order in which the map stores its entries -/
theorem lookup_perm (es es' : Entries) (hp : es.Perm es') (hnd : (keys es).Nodup) (t : DnType) :
    es.lookup t = es'.lookup t := by
  have hnd' : (keys es').Nodup := (hp.map Prod.fst).nodup_iff.1 hnd
  exact Option.ext fun v => (lookup_eq_some_iff_mem es hnd t v).trans
    (hp.mem_iff.trans (lookup_eq_some_iff_mem es' hnd' t v).symm)

/-- **no observable map order**: two names holding the same entries in different internal
    order (same order vector) enumerate identically, look up identically, and encode
    identically -/
theorem dn_iter_independent_of_map_order (a b : DistinguishedName)
    (hp : a.entries.Perm b.entries) (ho : a.order = b.order) (hnd : (keys a.entries).Nodup) :
    a.iter = b.iter ∧ (∀ t, a.get t = b.get t) ∧
    writeDistinguishedName a = writeDistinguishedName b := by
  have hi : a.iter = b.iter := by
    unfold iter; rw [ho]
    exact iterFrom_congr _ _ _ (fun t _ => lookup_perm _ _ hp hnd t)
  exact ⟨hi, fun t => lookup_perm _ _ hp hnd t, by unfold writeDistinguishedName; rw [hi]⟩

/-- hence the to-be-signed certificate does not depend on it either (subject and issuer) -/
theorem tbs_independent_of_map_order (H : Hashes) (p : CertParams) (s : PubKey) (i : Issuer)
    (dn' : DistinguishedName) (hp : p.dn.entries.Perm dn'.entries) (ho : p.dn.order = dn'.order)
    (hnd : (keys p.dn.entries).Nodup) (hsame : p.dn.entries.isEmpty = dn'.entries.isEmpty) :
    tbsCertificate H { p with dn := dn' } s i = tbsCertificate H p s i := by
  obtain ⟨_, _, hw⟩ := dn_iter_independent_of_map_order p.dn dn' hp ho hnd
  simp only [tbsCertificate, tbsCertificateFields, certExtensions, sanExt, shouldWriteExts,
    serialNode, skiExt, caExts, hw, hsame]

/-- what generation calls share: issuer parameters and keys (read-only in the model because
    the code takes them by shared reference and `KeyPair` has no interior mutability) -/
structure Shared where
  H : Hashes
  issuer : Issuer
  subject : PubKey
  sign : Signer

inductive Call where
  | cert (p : CertParams)
  | csr (p : CertParams) (attrs : List Attribute)
  | crl (p : CrlParams)

def callAlone (σ : Shared) : Call → Out Asn1
  | .cert p => issueCert {} σ.H p σ.subject σ.issuer σ.sign
  | .csr p attrs => serializeRequest p σ.subject attrs σ.sign
  | .crl p => issueCrl σ.H p σ.issuer σ.sign

/-- one scheduled step of some worker: reads the shared state, returns it unchanged -/
def step (σ : Shared) (c : Nat × Call) : Shared × Out Asn1 := (σ, callAlone σ c.2)

def runSchedule (σ : Shared) : List (Nat × Call) → Shared × List (Out Asn1)
  | [] => (σ, [])
  | c :: rest =>
    let (σ', o) := step σ c
    let (σ'', os) := runSchedule σ' rest
    (σ'', o :: os)

/-- **schedule independence**: whatever the interleaving of the workers' calls, each call
    returns what it returns when run alone, and the shared keys and issuer are unchanged -/
theorem schedule_independent (σ : Shared) (schedule : List (Nat × Call)) :
    (runSchedule σ schedule).1 = σ ∧
    (runSchedule σ schedule).2 = schedule.map (fun c => callAlone σ c.2) := by
  induction schedule with
  | nil => exact ⟨rfl, rfl⟩
  | cons c rest ih =>
    simp only [runSchedule, step, List.map_cons]
    exact ⟨ih.1, by rw [ih.2]⟩

/-- determinism: equal inputs, equal outputs (the model functions have no hidden state) -/
theorem generation_is_a_function (σ : Shared) (c : Call) : callAlone σ c = callAlone σ c := rfl

/-! non-vacuity: two different internal orders of the same two-entry map -/
example :
    let a : DistinguishedName := ⟨[(.commonName, .utf8 [97]), (.org, .utf8 [98])], [.org, .commonName]⟩
    let b : DistinguishedName := ⟨[(.org, .utf8 [98]), (.commonName, .utf8 [97])], [.org, .commonName]⟩
    a.iter = b.iter := by decide

end Rcgen.Theorems.C15
