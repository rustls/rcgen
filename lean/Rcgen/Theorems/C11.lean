import Rcgen.Model.Keys
import Rcgen.Theorems.C01
import Rcgen.Proofs.Spki
/-
  C11 — private keys survive save/load and keep their identity and algorithm.
  Model: Model/Keys.lean — the loader cascades and explicit-algorithm chains of key_pair.rs over
  an abstract key document (format, key type) and a parser-acceptance table for ring / aws-lc-rs.
  The table is an assumption about the back ends (validated row by row by the correspondence);
  what is proved is rcgen's own logic on top of it, over the *whole* finite table.
  Theorems/C03_Chain.lean imports this file and Proofs/ImportDecode.lean imports that one, so this
  file must not import ImportDecode or anything above it.
-/
namespace Rcgen.Theorems.C11
open Rcgen.Model

def allBackends : List Backend := [.ring, .aws]
def allKeyTypes : List KeyType := [.ed25519, .p256, .p384, .p521, .rsa, .rsaBig]
def allFormats : List DocFormat := [.pkcs8v1, .pkcs8v2, .sec1, .pkcs1]
def allDocs : List KeyDoc := allFormats.flatMap (fun f => allKeyTypes.map (fun k => ⟨f, k⟩))

/-- **save/load**: for every back end and every key type it supports, the document rcgen itself
    exports loads again through the auto-detecting entry points as a key of the same type with
    the algorithm auto-detection assigns to that type — and through every explicit-algorithm
    entry point as exactly the algorithm it is told, for each algorithm of that key type -/
theorem load_roundtrip :
    allBackends.all (fun b => allKeyTypes.all (fun k =>
      !supports b k ||
      (let d : KeyDoc := ⟨exportFormat b k, k⟩
       autodetect b d == .ok k.defaultAlg &&
       (publicAlgs b).all (fun a =>
         !a.fits k ||
         (loadPkcs8With b a d == .ok a && loadDerWith b a d == .ok a))))) = true := by decide +kernel

/-- **a loaded key exports PKCS#8, and that export loads again**: for every back end and every
    document it loads — whatever the encoding it came in (PKCS#8 v1/v2, SEC1, PKCS#1), through
    the auto-detecting or the explicit-algorithm entry points — what `serialize_der` /
    `serialize_pem` hand out is a PKCS#8 document of the same key type, which every entry
    point, the PKCS#8-only ones included, loads again as the same algorithm -/
theorem loaded_export_roundtrip :
    allBackends.all (fun b => allDocs.all (fun d => (publicAlgs b).all (fun a =>
      let loaded : Option SigAlg :=
        match loadDerWith b a d with
        | .ok x => some x
        | _ => none
      let auto : Option SigAlg :=
        match autodetect b d with
        | .ok x => some x
        | _ => none
      let e : KeyDoc := ⟨exportOfLoaded b d, d.kty⟩
      (loaded.isNone ||
        (e.wrapper == .pkcs8 && loadPkcs8With b a e == .ok a && loadDerWith b a e == .ok a &&
         autodetect b e == .ok d.kty.defaultAlg)) &&
      (auto.isNone ||
        (e.wrapper == .pkcs8 && autodetect b e == autodetect b d &&
         loadPkcs8With b d.kty.defaultAlg e == .ok d.kty.defaultAlg))))) = true := by decide +kernel

/-- every document some parser of the back end accepts is auto-detected as its own key type,
    never as another one (the cascade order cannot mis-type a key) -/
theorem autodetect_types_correctly :
    allBackends.all (fun b => allDocs.all (fun d =>
      match autodetect b d with
      | .ok a => a == d.kty.defaultAlg
      | .err _ => true
      | .panic => false)) = true := by decide +kernel

/-- **mismatch is an error**: loading any document under an algorithm it does not fit yields an
    error — never a mistyped key and never a panic — for every public algorithm constant of
    the back end (the `panic!("Unknown SignatureAlgorithm")` arms are unreachable from them) -/
theorem mismatch_is_error :
    allBackends.all (fun b => allDocs.all (fun d => (publicAlgs b).all (fun a =>
      (a.fits d.kty ||
        ((match loadPkcs8With b a d with | .err _ => true | _ => false) &&
         (match loadDerWith b a d with | .err _ => true | _ => false))) &&
      loadPkcs8With b a d != .panic && loadDerWith b a d != .panic))) = true := by decide +kernel

/-- a key loaded under an explicit algorithm reports that algorithm -/
theorem told_algorithm_kept (b : Backend) (a a' : SigAlg) (d : KeyDoc) :
    (loadPkcs8With b a d = .ok a' → a' = a) ∧ (loadDerWith b a d = .ok a' → a' = a) := by
  -- every arm of both chains is `tryParse .. a`, which reports `a` or an error, or is the panic
  have parse : ∀ {b p}, tryParse b p d a = .ok a' → a' = a := fun h => by
    unfold tryParse at h
    split at h
    · exact (LoadOut.ok.inj h).symm
    · cases h
  have pkcs8 : ∀ {b}, loadPkcs8With b a d = .ok a' → a' = a := fun {b} h => by
    cases a
    case ecdsaP521 =>
      cases b
      · cases h
      · exact parse h
    all_goals exact parse h
  refine ⟨pkcs8, fun h => ?_⟩
  cases b
  · dsimp only [loadDerWith] at h
    split at h
    · exact pkcs8 h
    · cases h
  · cases a <;> exact parse h

/-- **algorithm equality, hashing and lookup by OID are consistent**: `==` holds exactly between
    a constant and itself, equal constants hash alike, and `from_oid` of a constant's own OID
    returns that constant -/
theorem alg_eq_hash_oid_consistent :
    allBackends.all (fun b => (publicAlgs b).all (fun x => (publicAlgs b).all (fun y =>
      (algEq x y == (x == y)) && (!algEq x y || algHashKey x == algHashKey y)) &&
      algFromOid b x.sigOid == some x)) = true := by decide +kernel

/-- **SubjectPublicKeyInfo round trip**: looking up the exported AlgorithmIdentifier returns an
    algorithm with the same SubjectPublicKeyInfo identifier — the same constant for every key
    type that determines it (all but RSA, where the SPKI does not say which hash) -/
theorem spki_roundtrip :
    allBackends.all (fun b => (publicAlgs b).all (fun a =>
      match spkiAlgLookup b (encode (spkiAlgIdent a)) with
      | some a' => encode (spkiAlgIdent a') == encode (spkiAlgIdent a) &&
                   (a.keyType == .rsa || a' == a)
      | none => false)) = true := by decide +kernel

/-- the exported SubjectPublicKeyInfo is the RFC one for (algorithm, key bits): C02.spki_is_rfc;
    its AlgorithmIdentifier is the RFC literal: C01.spki_algid_is_rfc_identifier -/
theorem spki_algid_rfc (a : SigAlg) : encode (spkiAlgIdent a) = Spec.rfcSpkiAlgId a :=
  C01.spki_algid_is_rfc_identifier a

/-- **`SubjectPublicKeyInfo::from_der` on what `public_key_der` wrote** (and `from_pem` on
    `public_key_pem`): for every key of every algorithm of the build, whatever its length, the
    parsed value has the same key octets and an algorithm with the same SubjectPublicKeyInfo
    AlgorithmIdentifier — the same constant for every key type that determines it -/
theorem spki_import_of_export (b : Backend) (k : PubKey) (ha : k.alg ∈ publicAlgs b)
    (hl : (encode (spkiNode k)).length < 256 ^ 126) :
    ∃ a, spkiFromDer b (spkiDer k) = some ⟨a, k.raw⟩ ∧ spkiAlgIdent a = spkiAlgIdent k.alg ∧
      (k.alg.keyType ≠ .rsa → a = k.alg) := by
  obtain ⟨a, h1, h2, h3⟩ := Proofs.Spki.lookup_own b k.alg ha
  refine ⟨a, ?_, h2, h3⟩
  unfold spkiFromDer
  rw [Proofs.Spki.spkiParts_spkiDer k hl]
  simp only [h1, Option.map_some]

/-- hence the exported SubjectPublicKeyInfo of the parsed value is, byte for byte, the one parsed -/
theorem spki_reexport (b : Backend) (k k' : PubKey) (ha : k.alg ∈ publicAlgs b)
    (hl : (encode (spkiNode k)).length < 256 ^ 126) (h : spkiFromDer b (spkiDer k) = some k') :
    spkiDer k' = spkiDer k := by
  obtain ⟨a, h1, h2, _⟩ := spki_import_of_export b k ha hl
  rw [h1] at h
  cases h
  simp [spkiDer, spkiNode, h2]

example : spkiFromDer .ring (spkiDer ⟨.ecdsaP384, [4, 1, 2]⟩) = some ⟨.ecdsaP384, [4, 1, 2]⟩ := by
  decide +kernel
example : spkiFromDer .ring (spkiDer ⟨.rsaSha512, [48, 0]⟩) = some ⟨.rsaSha256, [48, 0]⟩ := by
  decide +kernel

/-! non-vacuity: a mismatched pair that is refused, a matching one that loads -/
example : loadPkcs8With .ring .ecdsaP256 ⟨.pkcs8v1, .p384⟩ = .err .keyRejected := by decide
example : autodetect .aws ⟨.sec1, .p521⟩ = .ok .ecdsaP521 := by decide
-- a SEC1 key loaded by aws-lc-rs is handed out as PKCS#8, which the PKCS#8-only entry point loads
example : exportOfLoaded .aws ⟨.sec1, .p384⟩ = .pkcs8v1 ∧
    loadPkcs8With .aws .ecdsaP384 ⟨.sec1, .p384⟩ = .err .keyRejected ∧
    loadPkcs8With .aws .ecdsaP384 ⟨exportOfLoaded .aws ⟨.sec1, .p384⟩, .p384⟩ = .ok .ecdsaP384 := by decide

end Rcgen.Theorems.C11
