import Rcgen.Theorems.C02
import Rcgen.Theorems.C12
/-
  C12, second part: the matching rule of iPAddress name constraints assembled — what
  `ipInSubnet` (RFC 5280 §4.2.1.10) decides on the subnets rcgen writes from a prefix length,
  and from the `addr/prefix` text of `CidrSubnet::from_str`.
-/
namespace Rcgen.Theorems.C12
open Rcgen.Model Rcgen.Spec

/-- `all` over three lists zipped = a statement about every index -/
theorem zip3_all (a b m : Bytes) (P : (UInt8 × UInt8) × UInt8 → Bool)
    (hab : a.length = b.length) (ham : a.length = m.length) :
    (List.zip (List.zip a b) m).all P = true ↔
      ∀ k (hk : k < a.length), P ((a[k], b[k]'(hab ▸ hk)), m[k]'(ham ▸ hk)) = true := by
  have hlen : (List.zip (List.zip a b) m).length = a.length := by
    simp only [List.length_zip]; omega
  -- element `k` of the zipped list is the triple of the `k`-th elements
  rw [List.all_eq_true]
  constructor
  · intro h k hk
    have := h _ (List.getElem_mem (hlen ▸ hk))
    simpa only [List.getElem_zip] using this
  · intro h x hx
    obtain ⟨k, hk, rfl⟩ := List.getElem_of_mem hx
    simpa only [List.getElem_zip] using h k (hlen ▸ hk)

/-- how many of the first `min n w` bits fall into octet `k` -/
def bitsIn (w n k : Nat) : Nat := min 8 (min n w - min (min n w) (8 * k))

theorem maskByte_lt (r : Nat) (h : r ≤ 8) : maskByte r < 256 :=
  -- `h` is not needed: `256 - 2 ^ e` is below 256 whatever the exponent
  Nat.sub_lt (by decide) (Nat.two_pow_pos _)

/-- the mask octets, one by one -/
theorem prefixMask_getElem (w : Nat) (hw : w = 32 ∨ w = 128) (n : Nat) (hn : n < 256) :
    (prefixMask w n).length = w / 8 ∧
    ∀ k (hk : k < (prefixMask w n).length), ((prefixMask w n)[k]).toNat = maskByte (bitsIn w n k) := by
  -- `hn` is not needed: `prefixMask_octet` reads the octets at every prefix length
  obtain ⟨c, rfl⟩ : ∃ c, w = 8 * c := by
    rcases hw with rfl | rfl
    · exact ⟨4, rfl⟩
    · exact ⟨16, rfl⟩
  refine ⟨prefixMask_length _ n, fun k hk => ?_⟩
  have hk' : k < c := by simpa [prefixMask_length] using hk
  rw [prefixMask_octet c n k hk, bitsIn, clipped_bits c n k hk', maskByte]

/-- **a CIDR prefix constrains exactly the leading bits**: an address is inside the subnet rcgen
    writes for (base address, prefix length n) iff it agrees with the base address on the first
    `min(n, width)` bits — octet by octet: on all eight bits of the octets the prefix covers, on
    the top bits of the one it ends in, on none of the others -/
theorem ip_in_prefix_subnet_iff (w : Nat) (hw : w = 32 ∨ w = 128) (a b : Bytes) (n : Nat)
    (hn : n < 256) (ha : a.length = w / 8) (hb : b.length = w / 8) :
    ipInSubnet a (b ++ prefixMask w n) = true ↔
      ∀ k (hk : k < w / 8),
        (a[k]'(ha ▸ hk)).toNat / 2 ^ (8 - bitsIn w n k) = (b[k]'(hb ▸ hk)).toNat / 2 ^ (8 - bitsIn w n k) := by
  have hab : a.length = b.length := ha.trans hb.symm
  -- under any mask made of `maskByte`s, octet `k` is compared on its leading `bits k` bits
  have rule (m : Bytes) (ham : a.length = m.length) (bits : Nat → Nat) (hbits : ∀ k, bits k ≤ 8)
      (hm : ∀ k (hk : k < m.length), (m[k]).toNat = maskByte (bits k)) :
      ipInSubnet a (b ++ m) = true ↔
        ∀ k (hk : k < a.length),
          (a[k]).toNat / 2 ^ (8 - bits k) = (b[k]'(hab ▸ hk)).toNat / 2 ^ (8 - bits k) := by
    unfold ipInSubnet
    have hlen : ((b ++ m).length == 2 * a.length) = true := by
      simp only [List.length_append, beq_iff_eq]; omega
    simp only [hlen, Bool.true_and, List.take_left' hab.symm, List.drop_left' hab.symm]
    rw [zip3_all a b m _ hab ham]
    refine forall_congr' fun k => forall_congr' fun hk => ?_
    rw [beq_iff_eq, hm k (ham ▸ hk)]
    exact octet_match_iff _ _ _ (hbits k)
  obtain ⟨hml, hme⟩ := prefixMask_getElem w hw n hn
  rw [rule _ (ha.trans hml.symm) (bitsIn w n) (fun k => Nat.min_le_left _ _) hme]
  exact ⟨fun h k hk => h k (ha ▸ hk), fun h k hk => h k (ha ▸ hk)⟩

/-- non-vacuity: 192.0.2.77 is inside 192.0.2.0/24 and outside 192.0.2.0/26 -/
example : ipInSubnet [192, 0, 2, 77] ([192, 0, 2, 0] ++ prefixMask 32 24) = true ∧
    ipInSubnet [192, 0, 2, 77] ([192, 0, 2, 0] ++ prefixMask 32 26) = false := by decide

theorem getD_getElem (l : Bytes) (k : Nat) (h : k < l.length) : l.getD k 0 = l[k] := by
  simp [List.getD, List.getElem?_eq_getElem h]

/-- … and so does the subnet `CidrSubnet::from_str` builds from a text: whatever text it accepts
    denotes an address and a number n ≤ 255, and a name of the same family is inside the written
    constraint iff it agrees with that address on the first `min(n, width)` bits -/
theorem cidr_text_constrains_leading_bits (s : Bytes) (c : CidrSubnet) (h : cidrFromStr s = some c) :
    ∃ (w : Nat) (addr : Bytes) (n : Nat), (w = 32 ∨ w = 128) ∧ addr.length = w / 8 ∧ n ≤ 255 ∧
      c.bytes = addr ++ prefixMask w n ∧
      ∀ (x : Bytes) (hx : x.length = w / 8),
        (ipInSubnet x c.bytes = true ↔
          ∀ k (hk : k < w / 8),
            (x[k]'(hx ▸ hk)).toNat / 2 ^ (8 - bitsIn w n k) =
              (addr.getD k 0).toNat / 2 ^ (8 - bitsIn w n k)) := by
  obtain ⟨_, _, _, addr, n, -, -, -, -, hle, hc⟩ := C02.cidr_from_str_subnet s c h
  -- either family: the subnet's octets are the address followed by the mask of `n`
  obtain ⟨w, hw, hal, hcb⟩ : ∃ w, (w = 32 ∨ w = 128) ∧ addr.length = w / 8 ∧
      c.bytes = addr ++ prefixMask w n := by
    rcases hc with ⟨hl, rfl⟩ | ⟨hl, rfl⟩
    · exact ⟨32, .inl rfl, hl, by rw [prefixMask_eq_leadingOnes 4 n]; rfl⟩
    · exact ⟨128, .inr rfl, hl, by rw [prefixMask_eq_leadingOnes 16 n]; rfl⟩
  refine ⟨w, addr, n, hw, hal, hle, hcb, fun x hx => ?_⟩
  rw [hcb, ip_in_prefix_subnet_iff w hw x addr n (by omega) hx hal]
  refine forall_congr' fun k => forall_congr' fun hk => ?_
  rw [getD_getElem _ _ (hal ▸ hk)]

end Rcgen.Theorems.C12
