import Rcgen.Theorems.C20
import Rcgen.Theorems.C13
import Rcgen.Model.Import
import Rcgen.Spec.Props
import Rcgen.Proofs.Basic
/-
  C03 — issued certificates chain to their issuer, including imported CAs.
  Model: `tbsCertificate` (issuer name = field 3, subject = field 5), `akiValue`, `skiExt`,
  `importName` / `importCa` (Model/Import.lean).
  What OpenSSL/webpki then accept is observed by the check, not proved.
  Proofs/ImportFields.lean, CsrIssue.lean and CsrRoundTrip.lean import this file, so it must not
  import them or anything above them (what needs more is in C03_Chain).
-/
namespace Rcgen.Theorems.C03
open Rcgen.Model Rcgen.Spec Rcgen.Model.DistinguishedName

/-- the view of an issuer certificate that `signed_by` takes: its params' name, key-id method
    and key usages, plus the signing key (`Model.selfIssuer`, and on a `Link`
    `Proofs.Validate.issuerOf`, are the same four fields) -/
def issuerView (ip : CertParams) (key : PubKey) : Issuer :=
  { dn := ip.dn, keyIdMethod := ip.keyIdMethod, keyUsages := ip.keyUsages, key := key }

/-- **issuer name bytes**: the issuer field of everything issued from a certificate value is
    the same tree — hence the same bytes — as the subject field of that certificate, whatever
    the name (any number of attributes, any string kinds, custom OIDs) -/
theorem issuer_name_bytes (H : Hashes) (p ip : CertParams) (s key : PubKey) (anyIssuer : Issuer) :
    (tbsCertificateFields H p s (issuerView ip key))[3]? =
      (tbsCertificateFields H ip key anyIssuer)[5]? := by
  simp [tbsCertificateFields, issuerView]

/-- **AKI = issuer SKI**: when the signing key is the issuer certificate's subject key, the
    authority key identifier written into the child is the key identifier the issuer
    certificate carries as its subject key identifier — for all 4×4 method pairs -/
theorem aki_eq_issuer_ski (H : Hashes) (ip : CertParams) (key : PubKey) :
    akiValue H (issuerView ip key) = ip.keyIdMethod.derive H (spkiDer key) := by
  unfold akiValue issuerView
  cases ip.keyIdMethod <;> rfl

theorem aki_ext_carries_it (H : Hashes) (p ip : CertParams) (s key : PubKey) (h : p.useAki = true) :
    ∃ rest, certExtensions H p s (issuerView ip key) =
      akiExt (ip.keyIdMethod.derive H (spkiDer key)) :: rest := by
  unfold certExtensions
  rw [h, aki_eq_issuer_ski]
  exact ⟨_, rfl⟩

theorem ski_of_issuer_cert (H : Hashes) (ip : CertParams) (key : PubKey) (pl : Option Nat)
    (h : ip.isCa = .ca pl) :
    ∃ bc, caExts H ip key = [extOf [2, 5, 29, 14] false (.octets (ip.keyIdMethod.derive H (spkiDer key))), bc] := by
  unfold caExts skiExt; rw [h]; exact ⟨_, rfl⟩

/-! ### imported CAs: the name is preserved exactly, or the import fails -/

theorem fromOid_oid (o : List Nat) : rfcAttrOid (DnType.fromOid o) = o :=
  -- each test of `from_oid` returns the type whose identifier it tested for
  have step {k : List Nat} {b x : DnType} (hb : rfcAttrOid b = k) (hx : rfcAttrOid x = o) :
      rfcAttrOid (if o = k then b else x) = o := by
    split
    · rename_i h; rw [hb, h]
    · exact hx
  step rfl <| step rfl <| step rfl <| step rfl <| step rfl <| step rfl rfl

theorem importValue_attr (a : AttrTV) (v : DnValue) (h : importValue a = .ok v) :
    reqAttr (DnType.fromOid a.oid, v) = a := by
  obtain ⟨oid, tag, value⟩ := a
  -- the three kinds that are checked UTF-8 text of a smaller alphabet
  have text {p : Bool} {e : Err} {w : DnValue}
      (h : (if !utf8Valid value then .error e else if p then .ok w else .error .invalidAsn1String :
        Except Err DnValue) = .ok v) : w = v := by
    obtain ⟨_, h⟩ | ⟨_, h⟩ := Proofs.ite_cases h
    · cases h
    · obtain ⟨_, h⟩ | ⟨_, h⟩ := Proofs.ite_cases h
      · exact Except.ok.inj h
      · cases h
  unfold reqAttr
  rw [fromOid_oid]
  -- `importValue` tests one tag after the other
  obtain ⟨h30, h⟩ | ⟨_, h⟩ := Proofs.ite_cases h
  · cases h30
    split at h
    · rename_i b hb; cases h; rw [C13.bmp_bytes_stored _ _ hb]
    · cases h
  obtain ⟨h22, h⟩ | ⟨_, h⟩ := Proofs.ite_cases h
  · cases h22; rw [← text h]
  obtain ⟨h19, h⟩ | ⟨_, h⟩ := Proofs.ite_cases h
  · cases h19; rw [← text h]
  obtain ⟨h20, h⟩ | ⟨_, h⟩ := Proofs.ite_cases h
  · cases h20; rw [← text h]
  obtain ⟨h28, h⟩ | ⟨_, h⟩ := Proofs.ite_cases h
  · cases h28
    split at h
    · rename_i b hb; cases h; rw [C13.universal_bytes_stored _ _ hb]
    · cases h
  obtain ⟨h12, h⟩ | ⟨_, h⟩ := Proofs.ite_cases h
  · cases h12
    obtain ⟨_, h⟩ | ⟨_, h⟩ := Proofs.ite_cases h
    · cases h; rfl
    · cases h
  cases h

theorem absPush_absent (a : Entries) (ty : DnType) (v : DnValue) (h : ty ∉ keys a) :
    absPush a ty v = a ++ [(ty, v)] := by
  induction a with
  | nil => rfl
  | cons e es ih =>
    obtain ⟨k, w⟩ := e
    obtain ⟨hk, hes⟩ := not_or.1 (mt List.mem_cons.2 h)
    rw [absPush, if_neg (Ne.symm hk), ih hes, List.cons_append]

theorem importNameFrom_spec (n : Name) (dn dn' : DistinguishedName) (hinv : Inv dn)
    (h : importNameFrom dn n = .ok dn') :
    Inv dn' ∧ reqName dn'.iter = reqName dn.iter ++ n := by
  induction n generalizing dn with
  | nil => cases h; exact ⟨hinv, (List.append_nil _).symm⟩
  | cons rdn rest ih =>
    simp only [importNameFrom] at h
    split at h
    · rename_i a
      split at h
      · cases h
      · cases hv : importValue a with
        | error e => rw [hv] at h; cases h
        | ok v =>
          simp only [hv] at h
          split at h
          · cases h
          · rename_i hck
            obtain ⟨i1, i2⟩ := ih _ (C20.inv_push dn hinv _ v) h
            refine ⟨i1, ?_⟩
            -- pushing a type that is not there appends it to the enumeration
            have hpush : (dn.push (DnType.fromOid a.oid) v).iter =
                dn.iter ++ [(DnType.fromOid a.oid, v)] := by
              rw [C20.refines_push dn hinv, absPush_absent]
              rw [(C20.iter_is_insertion_order dn hinv).2.2, ← containsKey]
              exact hck
            rw [i2, hpush, reqName, List.map_append, List.append_assoc]
            simp only [List.map_cons, List.map_nil, List.singleton_append, importValue_attr a v hv]
            rfl
    · cases h

/-- **import preserves the name or fails**: whenever importing a decoded name succeeds, the
    imported name re-encodes to exactly the decoded one — any number of RDNs, every string
    kind, custom OIDs; a name that repeats an attribute type is refused, never collapsed -/
theorem import_preserves_or_fails (n : Name) (dn : DistinguishedName) (h : importName n = .ok dn) :
    reqName dn.iter = n := by
  have := (importNameFrom_spec n DistinguishedName.new dn C20.inv_new h).2
  simpa [reqName, DistinguishedName.new, iter, iterFrom] using this

/-- a repeated attribute type makes the import fail: the repair of defect (c) of DESIGN.md §7 -/
theorem repeated_type_refused :
    importName [[⟨[0,9,2342,19200300,100,1,25], 22, [99,111,109]⟩],
                [⟨[0,9,2342,19200300,100,1,25], 22, [101,120]⟩]] = .error .couldNotParseCertificate := by
  rfl

/-- the SKI carried by an imported certificate becomes the fixed key identifier, so the AKI of
    everything later issued from the import equals the original certificate's SKI -/
theorem import_captures_ski (crypto : Bool) (c : TbsCert) (b : Bytes) (rest : List Bytes)
    (h : c.exts.filterMap skiOf = b :: rest) :
    importKid crypto c = .ok (.preSpecified b) := by
  unfold importKid; rw [h]

example : importName [[⟨[2,5,4,3], 12, [97]⟩], [⟨[2,5,4,10], 19, [66]⟩]] =
    .ok ((DistinguishedName.new.push .commonName (.utf8 [97])).push .org (.printable [66])) := by
  rfl

end Rcgen.Theorems.C03
