import Rcgen.Model.Sign
import Rcgen.Proofs.Ctor
import Rcgen.Proofs.Checks
import Rcgen.Proofs.Issue
/-
  C10 — the public API never panics (generation part; the parse entry points are third-party
  decoders followed by glue, see Theorems/C17 and the fuzz stream of the check).
  Model: the generation functions return `Out` whose `panic` constructor is reached exactly
  where yasna/time would assert (`certPanics`, `csrPanics`, `crlPanics`), *after* the
  validation `certInvalid` / `csrInvalid` / `crlInvalid` that the code performs up front.
  Theorem: for every value of the parameter types — any text, any OID list, any date the
  time type admits — the outcome is `ok` or `err`, never `panic`.  The only hypothesis is the
  invariant of the *validated string types* (an `Ia5String` is ASCII), which their constructors
  establish (C13) and no safe public API can break.
-/
namespace Rcgen.Theorems.C10
open Rcgen.Model

/-- invariant carried by values of rcgen's validated string types -/
def valueOk : DnValue → Bool
  | .ia5 b => isAscii b
  | _ => true

def nameOk (dn : DistinguishedName) : Bool := dn.iter.all (fun e => valueOk e.2)

def sanOk : SanType → Bool
  | .rfc822 b | .dns b | .uri b => isAscii b
  | _ => true

def subtreeOk : GeneralSubtree → Bool
  | .directoryName dn => nameOk dn
  | _ => true

def paramsOk (p : CertParams) : Bool :=
  nameOk p.dn && p.sans.all sanOk &&
  (match p.nameConstraints with
   | some nc => nc.permitted.all subtreeOk && nc.excluded.all subtreeOk
   | none => true)

theorem firstErr_none (l : List (Option Err)) : firstErr l = none ↔ ∀ x ∈ l, x = none := by
  simpa only [List.map_id, id] using firstErr_map id l

theorem time_no_panic (dt : DateTime) (h : checkTime dt = none) : timePanics dt = false := by
  obtain ⟨h0, h1⟩ := utcYear_of_checkTime h
  rw [← toUtc_year] at h0 h1
  unfold timePanics DateTime.toUtcInRange formYear
  generalize dt.toUtc.year = y at *
  have r1 : (decide ((-9999 : Int) ≤ y) && decide (y ≤ 9999)) = true := by simp; omega
  simp only [r1, Bool.not_true, Bool.false_eq_true, if_false]
  split
  · -- UTCTime: the assertion is the test just passed
    next hf => simp only [hf.1, hf.2, decide_true, Bool.and_self, Bool.not_true]
  · -- GeneralizedTime: the assertion is the range of `check_time`
    have h2 : y < 10000 := Int.lt_add_one_iff.2 h1
    simp only [h0, h2, decide_true, Bool.and_self, Bool.not_true]

theorem gentime_no_panic (dt : DateTime) (h : checkTime dt = none) : genTimePanics dt = false := by
  obtain ⟨h0, h1⟩ := utcYear_of_checkTime h
  rw [← toUtc_year] at h0 h1
  unfold genTimePanics DateTime.toUtcInRange
  generalize dt.toUtc.year = y at *
  simp; omega

theorem std_oid_ok (t : DnType) (h : ∀ o, t ≠ .custom o) : oidOk t.oid = true := by
  cases t with
  | custom o => exact absurd rfl (h o)
  | _ => decide

theorem name_no_panic (dn : DistinguishedName) (h : checkName dn = none) (hv : nameOk dn = true) :
    dnPanics dn = false := by
  unfold nameOk at hv
  rw [List.all_eq_true] at hv
  unfold dnPanics
  rw [List.any_eq_false]
  intro e he
  have htype := oids_of_checkName h e he
  have hv := hv e he
  obtain ⟨t, v⟩ := e
  have hvalue : dnValuePanics v = false := by
    cases v <;> first | rfl | simpa [dnValuePanics, valueOk] using hv
  rw [htype, hvalue]
  decide

theorem checkOid_none {o : List Nat} (h : checkOid o = none) : oidOk o = true :=
  (checkOid_eq_none o).1 h

theorem checkIa5_none {b : Bytes} (h : checkIa5 b = none) : isAscii b = true :=
  (checkIa5_eq_none b).1 h

theorem ext_oids_no_panic (p : CertParams) (h : checkExtensionOids p = none)
    (hs : p.sans.all sanOk = true) :
    p.sans.any sanPanics = false ∧ p.ekus.any (fun e => !oidOk e.oid) = false ∧
    p.customExts.any (fun e => !oidOk e.oid) = false := by
  obtain ⟨h1, h2, h3⟩ := (checkExtensionOids_eq_none p).1 h
  have hs' := List.all_eq_true.1 hs
  -- a text name is ASCII by its type's invariant, an otherName identifier was checked
  have hsan (s : SanType) (hs : s ∈ p.sans) : sanPanics s = false := by
    have hok := hs' s hs
    cases s with
    | rfc822 b | dns b | uri b => simpa [sanPanics, sanOk] using hok
    | ip o => rfl
    | otherName o v => simpa [sanPanics] using checkOid_none (h1 o v hs)
  simp only [List.any_eq_false, Bool.not_eq_true', Bool.not_eq_false, Bool.not_eq_true]
  exact ⟨fun x hx => by rw [hsan x hx],
    fun x hx => checkOid_none (h2 x hx), fun x hx => checkOid_none (h3 x hx)⟩

theorem subtree_no_panic (t : GeneralSubtree) (h : checkSubtree t = none) (hv : subtreeOk t = true) :
    subtreePanics t = false := by
  cases t with
  | rfc822 b => simp [subtreePanics, checkIa5_none (by simpa [checkSubtree] using h)]
  | dns b => simp [subtreePanics, checkIa5_none (by simpa [checkSubtree] using h)]
  | directoryName dn => exact name_no_panic dn (by simpa [checkSubtree] using h) (by simpa [subtreeOk] using hv)
  | ip c => rfl

/-- what the validation and the invariant of the string types leave no room for.  This is how a
    hypothesis `certPanics … = false` (C02, C04, C05) is met from `certInvalid … = none`. -/
theorem cert_no_panic (p : CertParams) (i : Issuer) (hinv : certInvalid p i = none)
    (hp : paramsOk p = true) (hi : nameOk i.dn = true) : certPanics p i = false := by
  obtain ⟨t1, t2, n1, n2, x, hnc, hdp⟩ := (certInvalid_eq_none p i).1 hinv
  simp only [paramsOk, Bool.and_eq_true] at hp
  obtain ⟨⟨hp1, hp2⟩, hp3⟩ := hp
  obtain ⟨x1, x2, x3⟩ := ext_oids_no_panic p x hp2
  refine (certPanics_eq_false p i).2 ⟨name_no_panic _ n1 hi, time_no_panic _ t1, time_no_panic _ t2,
    name_no_panic _ n2 hp1, fun _ => (extensionsPanic_eq_false p).2 ⟨x1, x2, ?_, ?_, x3⟩⟩
  · cases hnc' : p.nameConstraints with
    | none => rfl
    | some nc =>
      simp only [hnc', ← List.all_append] at hp3
      have : (nc.permitted ++ nc.excluded).any subtreePanics = false :=
        List.any_eq_false.2 fun t ht => Bool.eq_false_iff.1
          (subtree_no_panic t (hnc nc hnc' t ht) (List.all_eq_true.1 hp3 t ht))
      exact (ncPanics_some nc).2 fun _ => by simpa [List.any_append] using this
  · simp only [List.any_eq_false, List.any_eq_true, not_exists, not_and]
    exact fun dp hdp' u hu => by simp [checkIa5_none (hdp dp hdp' u hu)]

theorem csr_no_panic (p : CertParams) (attrs : List Attribute) (hinv : csrInvalid p attrs = none)
    (hp : paramsOk p = true) : csrPanics p attrs = false := by
  obtain ⟨n, x, ha⟩ := (csrInvalid_eq_none p attrs).1 hinv
  simp only [paramsOk, Bool.and_eq_true] at hp
  exact (csrPanics_eq_false p attrs).2 ⟨name_no_panic _ n hp.1.1,
    fun _ => (csrExtRequestPanics_eq_false p).2 (ext_oids_no_panic p x hp.1.2),
    fun a h => checkOid_none (ha a h)⟩

theorem crl_no_panic (p : CrlParams) (i : Issuer) (hinv : crlInvalid p i = none)
    (hi : nameOk i.dn = true) : crlPanics p i = false := by
  obtain ⟨n, hidp, t1, t2, hr⟩ := (crlInvalid_eq_none p i).1 hinv
  refine (crlPanics_eq_false p i).2
    ⟨name_no_panic _ n hi, time_no_panic _ t1, time_no_panic _ t2, ?_, ?_⟩
  · rw [List.any_eq_false]
    intro r h
    obtain ⟨c1, c2⟩ := hr r h
    unfold revokedPanics
    cases hd : r.invalidityDate with
    | none => simp [time_no_panic _ c1]
    | some d => simp [time_no_panic _ c1, gentime_no_panic _ (c2 d hd)]
  · cases h : p.idp with
    | none => rfl
    | some idp =>
      simp only [idpPanics, List.any_eq_false]
      exact fun u hu => by simp [checkIa5_none (hidp idp h u hu)]

/-- **certificates**: every parameter value yields `ok` or `err` -/
theorem cert_generation_never_panics (cfg : Config) (H : Hashes) (p : CertParams) (s : PubKey)
    (i : Issuer) (sign : Signer) (hp : paramsOk p = true) (hi : nameOk i.dn = true) :
    ∀ site, issueCert cfg H p s i sign ≠ .panic site := by
  intro site h
  obtain ⟨hinv, hpanic⟩ := Proofs.Issue.issueCert_panic h
  cases (cert_no_panic p i hinv hp hi).symm.trans hpanic

/-- **certificate signing requests** -/
theorem csr_generation_never_panics (p : CertParams) (s : PubKey) (attrs : List Attribute)
    (sign : Signer) (hp : paramsOk p = true) :
    ∀ site, serializeRequest p s attrs sign ≠ .panic site := by
  intro site h
  obtain ⟨hinv, hpanic⟩ := Proofs.Issue.serializeRequest_panic h
  cases (csr_no_panic p attrs hinv hp).symm.trans hpanic

/-- **revocation lists** -/
theorem crl_generation_never_panics (H : Hashes) (p : CrlParams) (i : Issuer) (sign : Signer)
    (hi : nameOk i.dn = true) :
    ∀ site, issueCrl H p i sign ≠ .panic site := by
  intro site h
  obtain ⟨hinv, hpanic⟩ := Proofs.Issue.issueCrl_panic h
  cases (crl_no_panic p i hinv hi).symm.trans hpanic

/-! non-vacuity: a parameter set that trips three checks at once (non-ASCII distribution-point
    URI, a one-arc custom extension OID, year −1) satisfies the hypotheses and yields an error -/
def badParams : CertParams :=
  { notBefore := ⟨-1, 1, 1, 0, 0, 0, 0, 0⟩, notAfter := ⟨4096, 1, 1, 0, 0, 0, 0, 0⟩,
    serial := none, sans := [], dn := DistinguishedName.new, isCa := .noCa, keyUsages := [],
    ekus := [], nameConstraints := none, crlDps := [⟨[[195, 188]]⟩],
    customExts := [⟨[1], false, [5, 0]⟩], useAki := false, keyIdMethod := .preSpecified [] }

example : paramsOk badParams = true := by decide
example : certInvalid badParams (selfIssuer badParams ⟨.ed25519, []⟩) = some .time := by decide

/-! ### the constructors around the parameter types (Model/Ctor.lean)

    `CidrSubnet::from_str`, `CertificateParams::new`, `SerialNumber::from` return a value or an
    error for every text (their model has no panic outcome, and the tie compares the outcome of
    the real function under `catch_unwind` on every offered text); the two constructors with an
    announced panic reach it exactly on the announced inputs. -/

/-- `new_acme_identifier` panics exactly on a digest that is not 32 octets long -/
theorem acme_panics_iff_wrong_length (d : Bytes) : (acmeIdentifier d).isNone ↔ d.length ≠ 32 := by
  unfold acmeIdentifier
  split <;> simp_all

/-- `date_time_ymd` panics exactly on an impossible calendar date -/
theorem ymd_panics_iff_impossible_date (y : Int) (m d : Nat) :
    (dateTimeYmd y m d).isNone ↔
      ¬ (-9999 ≤ y ∧ y ≤ 9999 ∧ 1 ≤ m ∧ m ≤ 12 ∧ 1 ≤ d ∧ d ≤ daysInMonth y m) := by
  rw [← dateTimeYmd_isSome]
  cases dateTimeYmd y m d <;> simp

/-- `CertificateParams::new` never fails in another way than `InvalidAsn1String` -/
theorem params_new_only_error (crypto : Bool) (names : List Bytes) :
    (∃ p, paramsNew crypto names = .ok p) ∨ paramsNew crypto names = .error .invalidAsn1String := by
  cases h : paramsNew crypto names with
  | ok p => exact .inl ⟨p, rfl⟩
  | error e => exact .inr (congrArg _ (classifySans_error names e (paramsNew_error h)).1)

end Rcgen.Theorems.C10
