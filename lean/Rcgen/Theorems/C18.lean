import Rcgen.Proofs.Ctor
import Rcgen.Theorems.C03
import Rcgen.Theorems.C12
/-
  C18 — the CLI writes a usable CA and end-entity pair for any valid options.
  Model: `cliRun` (Model/Cli.lean): parsed options → error, or the two parameter sets and the
  ordered list of files.  bpaf's argv grammar and the file system are outside the model; the
  check runs the real binary.
-/
namespace Rcgen.Theorems.C18
open Rcgen.Model

/-- **failure happens before any file is created, and exactly for invalid options**: a name
    that is neither an IP literal nor ASCII, base names whose four files would not be four
    different files, a country that is not a PrintableString, or a key algorithm the back end
    cannot generate -/
theorem cli_error_iff (aws : Bool) (o : CliOptions) :
    (∃ e, cliRun aws o = .error e) ↔
      ((∃ e, classifySans o.sans = .error e) ∨ namesCollide o.certFileName o.caFileName = true ∨
       o.countryName.all printableByte = false ∨ cliKeyAlg aws o.alg = none) := by
  unfold cliRun
  cases hs : classifySans o.sans with
  | error e => simp
  | ok sans =>
    simp only [reduceCtorEq, exists_false, false_or]
    cases hn : namesCollide o.certFileName o.caFileName with
    | true => simp
    | false =>
    simp only [Bool.false_eq_true, if_false, false_or]
    cases hc : o.countryName.all printableByte with
    | false => simp
    | true =>
      simp only [Bool.not_true, Bool.false_eq_true, if_false]
      cases hk : cliKeyAlg aws o.alg with
      | none => simp
      | some a => simp

/-- on success the tool writes exactly four files, end-entity first: `<cert>.key.pem`,
    `<cert>.pem`, `<ca>.key.pem`, `<ca>.pem` -/
theorem cli_ok_writes_four (aws : Bool) (o : CliOptions) (plan : CliPlan)
    (h : cliRun aws o = .ok plan) :
    plan.files = [o.certFileName ++ keyPemSuffix, o.certFileName ++ pemSuffix,
                  o.caFileName ++ keyPemSuffix, o.caFileName ++ pemSuffix] := by
  obtain ⟨_, _, -, -, -, -, rfl⟩ := cliRun_ok h
  rfl

/-- **the four files are four different files**: whenever the tool succeeds, no output
    overwrites another (a base name that is the other one plus `.key`, or equal to it, is
    refused) -/
theorem cli_files_distinct (aws : Bool) (o : CliOptions) (plan : CliPlan)
    (h : cliRun aws o = .ok plan) : plan.files.Nodup := by
  obtain ⟨_, _, -, hn, -, -, rfl⟩ := cliRun_ok h
  exact hn.of_map lexicalPath fun _ _ hne e => hne (congrArg _ e)

/-- ... and not only as names: two of the four that differ as strings but are one file (`./x` and
    `x`, `a/../x` and `x`, `a//b` and `a/b`) are refused as well — what is compared is the lexical
    form of each output's path -/
theorem cli_files_distinct_as_paths (aws : Bool) (o : CliOptions) (plan : CliPlan)
    (h : cliRun aws o = .ok plan) : (plan.files.map lexicalPath).Nodup := by
  obtain ⟨_, _, -, hn, -, -, rfl⟩ := cliRun_ok h
  exact hn

example : namesCollide [46, 47, 120, 46, 107, 101, 121] [120] = true := by decide   -- "./x.key" and "x"
example : namesCollide [97, 47, 46, 46, 47, 120] [120] = true := by decide          -- "a/../x" and "x"
example : namesCollide [120] [121] = false := by decide

/-- the end-entity certificate carries exactly the given names in order — IP literals as IP
    addresses, everything else as DNS names —, the common name, the requested purposes, and
    asks for an authority key identifier -/
theorem cli_ee_params (aws : Bool) (o : CliOptions) (plan : CliPlan) (h : cliRun aws o = .ok plan) :
    ∃ sans, classifySans o.sans = .ok sans ∧ plan.ee.sans = sans ∧
      plan.ee.dn.iter = [(.commonName, .utf8 o.commonName)] ∧
      plan.ee.ekus = (if o.clientAuth then [Eku.clientAuth] else []) ++
                     (if o.serverAuth then [Eku.serverAuth] else []) ∧
      plan.ee.isCa = .noCa ∧ plan.ee.useAki = true ∧ plan.ee.keyUsages = [.digitalSignature] := by
  obtain ⟨sans, _, hs, -, -, -, rfl⟩ := cliRun_ok h
  exact ⟨sans, hs, rfl, rfl, rfl, rfl, rfl, rfl⟩

/-- the CA is a CA without path-length limit, with certificate-signing and CRL-signing usage -/
theorem cli_ca_params (aws : Bool) (o : CliOptions) (plan : CliPlan) (h : cliRun aws o = .ok plan) :
    plan.ca.isCa = .ca none ∧ KeyUsage.keyCertSign ∈ plan.ca.keyUsages ∧
    KeyUsage.crlSign ∈ plan.ca.keyUsages := by
  obtain ⟨_, _, -, -, -, -, rfl⟩ := cliRun_ok h
  exact ⟨rfl, by simp [cliCaParams], by simp [cliCaParams]⟩

/-- each classified name is a well-formed address (4 or 16 octets) or an ASCII DNS name -/
theorem classify_wellformed (s : Bytes) (t : SanType) (h : classifySan s = .ok t) :
    (∃ o, t = .ip o ∧ (parseIpv4 s = some o ∨ parseIpv6 s = some o)) ∨
    (t = .dns s ∧ s.all (fun b => b.toNat < 128) = true ∧ parseIpv4 s = none ∧ parseIpv6 s = none) := by
  unfold classifySan at h
  split at h
  · next o h4 => cases h; exact .inl ⟨o, rfl, .inl h4⟩
  · next h4 =>
    split at h
    · next o h6 => cases h; exact .inl ⟨o, rfl, .inr h6⟩
    · next h6 =>
      split at h
      · next ha => cases h; exact .inr ⟨rfl, ha, h4, h6⟩
      · cases h

theorem parseIpv4_length (s o : Bytes) (h : parseIpv4 s = some o) : o.length = 4 :=
  parseIpv4_len s o h

/-- the pair chains: the end-entity's issuer field is the CA's subject field, and its
    authority key identifier is the CA's subject key identifier (C03) -/
theorem cli_pair_chains (H : Hashes) (aws : Bool) (o : CliOptions) (plan : CliPlan)
    (_h : cliRun aws o = .ok plan) (eeKey caKey : PubKey) (anyIssuer : Issuer) :
    (tbsCertificateFields H plan.ee eeKey (C03.issuerView plan.ca caKey))[3]? =
      (tbsCertificateFields H plan.ca caKey anyIssuer)[5]? ∧
    akiValue H (C03.issuerView plan.ca caKey) = plan.ca.keyIdMethod.derive H (spkiDer caKey) :=
  ⟨C03.issuer_name_bytes H plan.ee plan.ca eeKey caKey anyIssuer, C03.aki_eq_issuer_ski H plan.ca caKey⟩

/-- the purposes the end-entity certificate is good for: any when no flag was given, otherwise
    exactly the flagged ones -/
def purposeAllowed (o : CliOptions) (u : Spec.Purpose) : Bool :=
  (!o.clientAuth && !o.serverAuth) ||
  (match u with
   | .clientAuth => o.clientAuth
   | .serverAuth => o.serverAuth
   | _ => false)

/-- **the written pair validates**: an RFC 5280 §6.1 validator, run on what the two certificates
    the tool writes decode to (C02), with the CA as trust anchor, accepts the end-entity
    certificate — at every time inside the tool's fixed validity window, for exactly the
    purposes the flags ask for, whether or not the anchor itself is checked and key usage is
    enforced, for every valid option set, every pair of keys and every hash family -/
theorem cli_pair_validates (H : Hashes) (aws ac kc : Bool) (o : CliOptions) (plan : CliPlan)
    (h : cliRun aws o = .ok plan) (caKey eeKey : PubKey) (t : Int) (u : Spec.Purpose)
    (ht : defaultParams.notBefore.epochSeconds ≤ t ∧ t ≤ defaultParams.notAfter.epochSeconds) :
    Spec.validate ac kc
      ((C12.chainOf H [⟨plan.ca, caKey⟩, ⟨plan.ee, eeKey⟩]).map Proofs.CertDecode.modelTbs) t u =
      purposeAllowed o u := by
  obtain ⟨sans, _, -, -, -, -, rfl⟩ := cliRun_ok h
  -- neither certificate carries caller-supplied extensions
  have hv := Proofs.Validate.chain_verdict H ac kc
    [⟨cliCaParams o.countryName o.organizationName, caKey⟩,
     ⟨cliEeParams o.commonName sans o.clientAuth o.serverAuth, eeKey⟩] t u
    (by intro p hp e he
        simp only [List.map_cons, List.map_nil, List.mem_cons, List.not_mem_nil, or_false] at hp
        rcases hp with rfl | rfl <;> cases he)
  -- both carry the validity window of `defaultParams`; the CA is one that may sign, without
  -- path-length limit or name constraints: every clause but the purposes is `true` outright
  have tv : Spec.pTimeValid defaultParams t = true := by simp [Spec.pTimeValid, ht]
  have tvc : Spec.pTimeValid (cliCaParams o.countryName o.organizationName) t = true := tv
  have tve : Spec.pTimeValid (cliEeParams o.commonName sans o.clientAuth o.serverAuth) t = true := tv
  have hca : Spec.pIsCa (cliCaParams o.countryName o.organizationName) = true := rfl
  have hsign : Spec.pMayCertSign (cliCaParams o.countryName o.organizationName) = true := rfl
  have hnc : Spec.pNcAllowsLeaf (cliCaParams o.countryName o.organizationName)
      (cliEeParams o.commonName sans o.clientAuth o.serverAuth) = true := rfl
  -- the end-entity certificate's extended key usages admit exactly the flagged purposes
  have heku : Spec.pEkuAllows (cliEeParams o.commonName sans o.clientAuth o.serverAuth) u =
      purposeAllowed o u := by
    unfold purposeAllowed
    cases o.clientAuth <;> cases o.serverAuth <;> cases u <;> rfl
  refine hv.trans ?_
  simp only [List.map_cons, List.map_nil, Proofs.Validate.expectedVerdict_pair, tvc, tve, hca,
    hsign, hnc, heku, Bool.true_and, Bool.and_true, Bool.or_true]

/-! non-vacuity of the hypothesis `cliRun aws o = .ok plan` of the theorems above, and of the
    refusals of `cli_error_iff` -/
def sampleOpts : CliOptions :=
  { output := [111], alg := .p256, clientAuth := false, serverAuth := true, certFileName := [99],
    caFileName := [114], sans := [[49, 46, 50, 46, 51, 46, 52], [97, 46, 98]], commonName := [120],
    countryName := [66, 82], organizationName := [79] }

example : ∃ plan, cliRun false sampleOpts = .ok plan ∧
    plan.ee.sans = [.ip [1, 2, 3, 4], .dns [97, 46, 98]] := ⟨_, rfl, rfl⟩
example : cliRun false { sampleOpts with alg := .rsa } = .error .keyGenerationUnavailable := rfl
-- the validity window of `cli_pair_validates` contains, e.g., 2025-06-15
example : defaultParams.notBefore.epochSeconds ≤ 1750000000 ∧
    (1750000000 : Int) ≤ defaultParams.notAfter.epochSeconds := by decide +kernel
example : purposeAllowed sampleOpts .serverAuth = true ∧ purposeAllowed sampleOpts .clientAuth = false := by
  decide
-- `--cert-file-name x.key --ca-file-name x`: `x.key.pem` would be written twice
example : cliRun false { sampleOpts with certFileName := [120, 46, 107, 101, 121], caFileName := [120] } =
    .error (.other "same-file") := rfl

end Rcgen.Theorems.C18
