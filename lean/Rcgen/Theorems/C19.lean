import Rcgen.Proofs.Issue
import Rcgen.Model.Pem
import Rcgen.Model.Error
/-
  C19 — private key material never leaks into public outputs or diagnostics.
  Model: a key pair is (public part, algorithm, private document, back-end rendering of the
  *public* object, signer).  Every public observer is written out below; the theorem is
  non-interference on the private document: replacing it changes no observer other than the
  three explicit export functions.  What ring / aws-lc-rs print in their own `Debug`, and
  whether a signature leaks the key (cryptography), are observed by the scan, not proved.
-/
namespace Rcgen.Theorems.C19
open Rcgen.Model

structure KeyPairM where
  pub : PubKey
  /-- `serialized_der`: the private key document -/
  doc : Bytes
  /-- the back end's `Debug` of its key object (prints the public key only) -/
  backendDebug : String
  sign : Signer

def algDebugName : SigAlg → String
  | .rsaSha256 => "PKCS_RSA_SHA256" | .rsaSha384 => "PKCS_RSA_SHA384"
  | .rsaSha512 => "PKCS_RSA_SHA512" | .ecdsaP256 => "PKCS_ECDSA_P256_SHA256"
  | .ecdsaP384 => "PKCS_ECDSA_P384_SHA384" | .ecdsaP521 => "PKCS_ECDSA_P521_SHA512"
  | .ed25519 => "PKCS_ED25519"

/-- key_pair.rs:73-81 `impl Debug for KeyPair` -/
def debugText (k : KeyPairM) : String :=
  "KeyPair { kind: " ++ k.backendDebug ++ ", alg: " ++ algDebugName k.pub.alg ++
  ", serialized_der: \"[secret key elided]\" }"

/-- everything a caller can observe of a key pair without calling an export function, and
    everything generation produces with it -/
structure PublicView where
  raw : Bytes
  spkiDer : Bytes
  spkiPem : Bytes
  debug : String
  cert : CertParams → Issuer → Out Asn1
  selfSigned : CertParams → Out Asn1
  csr : CertParams → List Attribute → Out Asn1
  crl : CrlParams → Issuer → Out Asn1

def view (H : Hashes) (k : KeyPairM) : PublicView :=
  { raw := k.pub.raw
    spkiDer := spkiDer k.pub
    spkiPem := pemEncode PemKind.publicKey.label (spkiDer k.pub)
    debug := debugText k
    cert := fun p i => issueCert {} H p k.pub i k.sign
    selfSigned := fun p => issueCert {} H p k.pub (selfIssuer p k.pub) k.sign
    csr := fun p attrs => serializeRequest p k.pub attrs k.sign
    crl := fun p i => issueCrl H p i k.sign }

/-- the explicit private-key exports: the only observers of the document -/
def serializeDer (k : KeyPairM) : Bytes := k.doc
def serializePem (k : KeyPairM) : Bytes := pemEncode PemKind.privateKey.label k.doc

/-- **non-interference**: two key pairs that differ only in the stored private document (the
    same key as PKCS#8 v1 or v2, say — or any other bytes) have identical public views -/
theorem public_outputs_ignore_doc (H : Hashes) (k : KeyPairM) (doc' : Bytes) :
    view H { k with doc := doc' } = view H k := rfl

/-- the signer's result appears only as the content of the outer BIT STRING: everything
    before it is fixed before the signer is called -/
theorem signer_result_only_in_signature (alg : SigAlg) (sign sign' : Signer) (tbs t t' : Asn1)
    (h : signDer alg sign tbs = .ok t) (h' : signDer alg sign' tbs = .ok t') :
    ∃ sig sig', t = .seq [tbs, algIdent alg, .bitStringOctets sig] ∧
      t' = .seq [tbs, algIdent alg, .bitStringOctets sig'] := by
  obtain ⟨sig, _, e⟩ := Proofs.Issue.signDer_ok h
  obtain ⟨sig', _, e'⟩ := Proofs.Issue.signDer_ok h'
  exact ⟨sig, sig', e, e'⟩

/-! ### error texts (Model/Error.lean = error.rs `Display`, tied to the real texts on every run) -/

/-- two error values of the same variant: equal up to their payload -/
def sameVariant : ErrorV → ErrorV → Bool
  | .invalidAsn1String a _, .invalidAsn1String b _ => a == b
  | .invalidIpAddressOctetLength _, .invalidIpAddressOctetLength _ => true
  | .ringKeyRejected _, .ringKeyRejected _ => true
  | .pemError _, .pemError _ => true
  | .x509 _, .x509 _ => true
  | a, b => a == b

/-- **the text of an error is the variant's constant text around its one payload**: nothing else
    enters it — no input bytes, no key, no state -/
theorem error_text_is_constant_around_payload (e e' : ErrorV) (h : sameVariant e e' = true) :
    e.display = e.prefix ++ e.payload ++ e.suffix ∧ e.prefix = e'.prefix ∧ e.suffix = e'.suffix := by
  refine ⟨rfl, ?_⟩
  -- `sameVariant` arm by arm: the five payload variants, whose constant texts do not mention the
  -- payload (for `invalidAsn1String` with the same type), and the rest, where the two are equal
  unfold sameVariant at h
  split at h
  · cases eq_of_beq h; exact ⟨rfl, rfl⟩
  · exact ⟨rfl, rfl⟩
  · exact ⟨rfl, rfl⟩
  · exact ⟨rfl, rfl⟩
  · exact ⟨rfl, rfl⟩
  · cases eq_of_beq h; exact ⟨rfl, rfl⟩

/-- fifteen of the twenty variants have no payload at all: their text is a constant -/
theorem payload_free_variants (e : ErrorV) :
    (match e with
     | .invalidAsn1String _ _ | .invalidIpAddressOctetLength _ | .ringKeyRejected _ | .pemError _
     | .x509 _ => True
     | _ => e.payload = [] ∧ e.suffix = []) := by
  cases e <;> simp [ErrorV.payload, ErrorV.suffix]

/-- **what the text constructors put into `InvalidAsn1String`**: the text the caller handed to
    that very call (three types), or a fixed message (`BmpString`); `UniversalString` has no error -/
theorem str_ctor_error_payload (k : StrKind) (s : List Char) (e : ErrorV)
    (h : strCtorError k s = some e) :
    ctor k s = none ∧ (e.payload = utf8 s ∨ e.payload = badUtf16) ∧ k ≠ .universal := by
  unfold strCtorError at h
  split at h
  · cases h
  · next hc =>
    refine ⟨hc, ?_⟩
    -- the refused text for the three byte-checked types, the fixed message for `BmpString`
    cases k <;> cases h
    · exact ⟨.inl rfl, nofun⟩
    · exact ⟨.inl rfl, nofun⟩
    · exact ⟨.inl rfl, nofun⟩
    · exact ⟨.inr rfl, nofun⟩

/-- the byte-level constructors never echo the bytes they refuse -/
theorem bytes_ctor_error_payload (b : Bytes) (e : ErrorV) :
    (bmpBytesError b = some e → e = .invalidAsn1String .bmp badUtf16) ∧
    (universalBytesError b = some e → e = .invalidAsn1String .universal badUtf32) := by
  constructor
  · intro h
    unfold bmpBytesError at h
    split at h
    · cases h
    · exact (Option.some.inj h).symm
  · intro h
    unfold universalBytesError at h
    split at h
    · cases h
    · exact (Option.some.inj h).symm

/-- **the text kept of a PEM parser error does not depend on what the parser quotes** (the BEGIN /
    END tags and the header it found — in a damaged key file, the key's own base64) -/
theorem pem_error_ignores_quoted (b e b' e' h h' : Bytes) :
    pemErrorOf (.mismatchedTags b e) = pemErrorOf (.mismatchedTags b' e') ∧
    pemErrorOf (.invalidHeader h) = pemErrorOf (.invalidHeader h') := ⟨rfl, rfl⟩

example : (ErrorV.invalidAsn1String .printable (txt "a*")).display = txt "Invalid PrintableString: 'a*'" := by
  decide +kernel
example : (ErrorV.invalidIpAddressOctetLength 123).display =
    txt "Invalid IP address octet length of 123 bytes" := by decide +kernel
example : strCtorError .printable ['a', '*'] = some (.invalidAsn1String .printable [97, 42]) := by
  decide +kernel

/-! non-vacuity: two different documents, one view -/
example (H : Hashes) (k : KeyPairM) : view H { k with doc := [1, 2, 3] } = view H { k with doc := [] } := rfl

end Rcgen.Theorems.C19
