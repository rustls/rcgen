import Rcgen.Spec.Validate
import Rcgen.Proofs.PrefixMask
import Rcgen.Proofs.Validate
/-
  C12 — constraints placed in certificates are enforced by independent validators.
  Spec: `Spec.validate` (RFC 5280 §6.1 restricted to what rcgen emits) and
  `Spec.expectedVerdict` (the verdict the parameters imply).  The check evaluates both on every
  generated chain and compares them with OpenSSL and webpki.  Proved here and in C12_Subnet: the
  two matching rules mean what the parameters say — a CIDR prefix constrains exactly the leading
  bits (the octet rule here, the assembled statement in C12_Subnet), a DNS subtree exactly the
  label-aligned suffixes — and the per-certificate clauses of the validator read from the
  *requested content* what `expectedVerdict` reads from the parameters.
  That OpenSSL / webpki agree with `Spec.validate` is observed on the enumerated product.
  `maskByte` is declared in Proofs/PrefixMask.lean (as `Theorems.C12.maskByte`): the lemmas there
  state their results with it, and this file imports them.
-/
namespace Rcgen.Theorems.C12
open Rcgen.Model Rcgen.Spec

theorem and_maskByte_table :
    (List.range 256).all (fun x => (List.range 9).all (fun k =>
      x &&& maskByte k == x - x % 2 ^ (8 - k))) = true := by
  simp only [List.all_eq_true, List.mem_range, beq_iff_eq]
  exact fun x hx k _ => (and_maskByte_eq x hx k).trans Nat.mul_div_self_eq_mod_sub_self

theorem and_maskByte (x : Nat) (hx : x < 256) (k : Nat) (hk : k ≤ 8) :
    x &&& maskByte k = x - x % 2 ^ (8 - k) :=
  -- `hk` is not needed: past 8 the truncated `8 - k` stays 0, and the mask 255
  (and_maskByte_eq x hx k).trans Nat.mul_div_self_eq_mod_sub_self

/-- **one octet under a prefix mask**: equal under the mask iff the leading `k` bits agree -/
theorem octet_match_iff (a b : UInt8) (k : Nat) (hk : k ≤ 8) :
    ((a.toNat &&& maskByte k) = (b.toNat &&& maskByte k)) ↔
      a.toNat / 2 ^ (8 - k) = b.toNat / 2 ^ (8 - k) := by
  -- `hk` is not needed, as above
  rw [and_maskByte_eq _ a.toNat_lt, and_maskByte_eq _ b.toNat_lt]
  exact ⟨Nat.eq_of_mul_eq_mul_left (Nat.two_pow_pos _), congrArg _⟩

/-- the mask octets rcgen derives from a prefix length are `maskByte` of the bits that fall
    into each octet (all 256 prefix lengths, both families: `C02.cidr_mask_all_prefixes`) -/
theorem prefix_mask_octets :
    (List.range 256).all (fun n =>
      prefixMask 32 n == (List.range 4).map (fun i => UInt8.ofNat (maskByte (min 8 (min n 32 - min (min n 32) (8 * i))) % 256)) &&
      prefixMask 128 n == (List.range 16).map (fun i => UInt8.ofNat (maskByte (min 8 (min n 128 - min (min n 128) (8 * i))) % 256))) = true := by
  simp only [List.all_eq_true, Bool.and_eq_true, beq_iff_eq]
  exact fun n _ => ⟨prefixMask_eq_maskBytes 4 n, prefixMask_eq_maskBytes 16 n⟩

/-- `ipInSubnet` compares octet by octet under the mask; names of the other address family
    never match (their length differs) -/
theorem ip_other_family_never_matches (addr constraint : Bytes)
    (h : constraint.length ≠ 2 * addr.length) : ipInSubnet addr constraint = false := by
  unfold ipInSubnet
  have : (constraint.length == 2 * addr.length) = false := by simpa using h
  simp [this]

/-- **DNS subtree = label-aligned suffix** (constraint without a leading dot): a name is inside
    iff it equals the constraint or ends in `"." ++ constraint`, case-insensitively -/
theorem dns_in_subtree_iff_suffix (name c : Bytes) (hc : c ≠ []) (hdot : (c.map lower).head? ≠ some 46) :
    dnsInSubtree name c = true ↔
      (name.map lower = c.map lower ∨
        ∃ pre, name.map lower = pre ++ [46] ++ c.map lower) := by
  have hne : (c.map lower).isEmpty = false := by cases c <;> simp_all
  have hd : ((c.map lower).head? == some 46) = false := by simpa using hdot
  simp only [dnsInSubtree, hne, hd, Bool.false_eq_true, if_false, Bool.or_eq_true, beq_iff_eq,
    Bool.and_eq_true, decide_eq_true_eq, Proofs.suffix_after_sep]

def ofChars (cs : List Char) : Bytes := cs.map (fun c => UInt8.ofNat c.toNat)

/-- a look-alike (`badexample.com` against `example.com`) is outside; the apex and any
    subdomain, in any letter case, are inside -/
theorem dns_examples :
    dnsInSubtree (ofChars ['b','a','d','e','x','a','m','p','l','e','.','c','o','m'])
      (ofChars ['e','x','a','m','p','l','e','.','c','o','m']) = false ∧
    dnsInSubtree (ofChars ['e','x','a','m','p','l','e','.','c','o','m'])
      (ofChars ['e','x','a','m','p','l','e','.','c','o','m']) = true ∧
    dnsInSubtree (ofChars ['A','.','E','x','a','m','p','l','e','.','C','O','M'])
      (ofChars ['e','x','a','m','p','l','e','.','c','o','m']) = true := by decide

def win (ca : IsCa) (y1 y2 : Int) : CertParams :=
  { notBefore := ⟨y1, 1, 1, 0, 0, 0, 0, 0⟩, notAfter := ⟨y2, 1, 1, 0, 0, 0, 0, 0⟩, serial := none,
    sans := [], dn := DistinguishedName.new, isCa := ca, keyUsages := [], ekus := [],
    nameConstraints := none, crlDps := [], customExts := [], useAki := false,
    keyIdMethod := .sha256 }

/-- non-vacuity of `expectedVerdict`: the baseline chain is expected to be accepted; making the
    issuer a non-CA, or verifying after the leaf's window, flips the expectation -/
theorem expected_examples :
    expectedVerdict true true [win (.ca none) 2020 2040, win .noCa 2022 2038] 1748736000 .serverAuth = true ∧
    expectedVerdict true true [win .noCa 2020 2040, win .noCa 2022 2038] 1748736000 .serverAuth = false ∧
    expectedVerdict true true [win (.ca none) 2020 2040, win .noCa 2022 2038] 2200000000 .serverAuth = false ∧
    -- a path-length limit of 0 on the root forbids an intermediate
    expectedVerdict true true [win (.ca (some 0)) 2020 2040, win (.ca none) 2021 2039, win .noCa 2022 2038]
      1748736000 .serverAuth = false := by decide

/-! ### the validator's verdict is the one the parameters imply -/

abbrev Link := Proofs.Validate.Link
abbrev chainOf := Proofs.Validate.chainOf

/-- **the RFC 5280 §6.1 validator, run on what the certificates of a generated chain decode
    to, returns the verdict the parameters imply** — for every chain anchor → … → leaf of any
    length ≥ 2 in which each certificate is issued by the one before it, every parameter set of
    every certificate (CA flag and path length, validity in any offset, key usages, extended
    key usages, DNS / IP / directory name constraints, subject alternative names, anything
    else), every verification time and purpose, and both validator profiles (anchor checked
    like any CA or trusted for name and key only; keyCertSign required or not).  The records
    are those of `cert_decodes_to_record` (C02): `chain_records_decode` below. -/
theorem validator_verdict_is_implied (H : Hashes) (ac kc : Bool) (cas : List Link) (leaf : Link)
    (t : Int) (u : Purpose) (hne : cas ≠ [])
    (hc : ∀ l ∈ cas ++ [leaf], ∀ e ∈ l.p.customExts, e.oid ∉ Proofs.X509.knownOids) :
    validate ac kc ((chainOf H (cas ++ [leaf])).map Proofs.CertDecode.modelTbs) t u =
      expectedVerdict ac kc ((cas ++ [leaf]).map (·.p)) t u :=
  -- `hne` (length ≥ 2: an anchor besides the leaf) is not needed: the two agree on any list of links
  Proofs.Validate.chain_verdict H ac kc (cas ++ [leaf]) t u (List.forall_mem_map.2 hc)

/-- strict DER decoding of the to-be-signed bytes of every certificate of the chain yields
    exactly those records -/
theorem chain_records_decode (l : List CertInputs) (h : ∀ ci ∈ l, Proofs.Validate.Good ci) :
    l.mapM (fun ci => decodeTbsCert (encode (tbsCertificate ci.H ci.p ci.subject ci.issuer))) =
      some (l.map Proofs.CertDecode.modelTbs) := by
  simpa using Proofs.mapM_map_some l id _ Proofs.CertDecode.modelTbs
    fun ci hci => (h ci hci).decodes

/-- the per-certificate readings, stated outright: what the validator reads from a decoded
    certificate is what the parameters say -/
theorem ca_clauses_from_requested (i : CertInputs)
    (hc : ∀ e ∈ i.p.customExts, e.oid ∉ Proofs.X509.knownOids) (t : Int) (u : Purpose) :
    isCaCert (Proofs.CertDecode.modelTbs i) = pIsCa i.p ∧
    pathLen (Proofs.CertDecode.modelTbs i) = pPathLen i.p ∧
    mayCertSign (Proofs.CertDecode.modelTbs i) = pMayCertSign i.p ∧
    timeValid (Proofs.CertDecode.modelTbs i) t = pTimeValid i.p t ∧
    ekuAllows (Proofs.CertDecode.modelTbs i) u = pEkuAllows i.p u ∧
    leafNames (Proofs.CertDecode.modelTbs i) = i.p.sans.map reqSan :=
  ⟨Proofs.Validate.isCa_model i hc, Proofs.Validate.pathLen_model i hc,
   Proofs.Validate.mayCertSign_model i hc, Proofs.Validate.timeValid_model i t,
   Proofs.Validate.ekuAllows_model i hc u, Proofs.Validate.leafNames_model i hc⟩

/-- `chainOf` on a root with a path-length limit, an intermediate and a leaf: three sets of
    generation inputs, to which `validator_verdict_is_implied` applies (no custom extensions) -/
example : (Proofs.Validate.chainOf ⟨id, id, id⟩
    [⟨win (.ca (some 1)) 2020 2040, ⟨.ed25519, [1]⟩⟩, ⟨win (.ca none) 2021 2039, ⟨.ed25519, [2]⟩⟩,
     ⟨win .noCa 2022 2038, ⟨.ed25519, [3]⟩⟩]).length = 3 := rfl

end Rcgen.Theorems.C12
