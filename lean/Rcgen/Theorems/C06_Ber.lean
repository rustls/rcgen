import Rcgen.Proofs.Ber
import Rcgen.Proofs.WF
/-
  C06, the tolerant reader (same namespace as C06.lean).  rcgen reads requests with
  x509-parser, which takes extension values in BER length forms the strict decoder of the
  specification refuses.  For such requests the question "carried over whole, or refused" is put
  by `Spec.c06IssueClausesBer`, which reads both artefacts with `decodeBer`.  What is proved about
  that reader: it is an extension of the strict one — on anything the strict decoder reads it
  returns the same tree, element for element — so using it where the strict decoder has no
  answer changes no verdict the strict decoder gives.
-/
namespace Rcgen.Theorems.C06
open Rcgen.Spec

/-- **the tolerant reader extends the strict decoder**: a byte string that is the DER encoding of
    a tree is read by the tolerant reader as that tree (whole strings, single elements with their
    remainder, and lists of elements) -/
theorem tolerant_reader_extends_strict :
    (∀ b t, decodeAll b = some t → decodeAllBer b = some t) ∧
    (∀ fuel b r, decode fuel b = some r → decodeBer fuel b = some r) ∧
    (∀ fuel b ts, decodeList fuel b = some ts → decodeListBer fuel b = some ts) :=
  ⟨Proofs.Ber.decodeAllBer_of_decodeAll, fun f => (Proofs.Ber.decodeBer_of_decode f).1,
    fun f => (Proofs.Ber.decodeBer_of_decode f).2⟩

/-- ... and whatever rcgen itself writes is read by it: the encoding of any well-formed tree
    (the generic DER round trip composed with the extension) -/
theorem tolerant_reader_reads_every_encoding (t : Asn1) (h : decodeAll (encode t) = some t) :
    decodeAllBer (encode t) = some t := Proofs.Ber.decodeAllBer_of_decodeAll _ _ h

/-- every element of a DER string of well-formed elements is reported, in order -/
theorem elements_of_encoding (ts : List Asn1) (h : WFList ts) :
    elementsBer (encodeList ts) = some ts :=
  Proofs.Ber.elementsBer_encodeList ts h

/-- **on what rcgen writes the tolerant reading of an extended key usage is the list written**:
    for the value `SEQUENCE OF OBJECT IDENTIFIER` over any identifiers (any number, of any
    length below the representable bound), the purposes the tolerant reader reports are exactly
    those identifiers, duplicates dropped -/
theorem purposes_of_written_value (cs : List Bytes)
    (hc : ∀ c ∈ cs, c.length < 256 ^ 126)
    (hlen : (encodeList (cs.map (fun c => Asn1.prim 0 6 c))).length < 256 ^ 126) :
    berPurposes [encode (.cons 0 16 (cs.map (fun c => Asn1.prim 0 6 c)))] = some cs.eraseDups := by
  -- `hc` follows from `hlen`: every identifier lies inside the encoded list
  have hwl := wfList_of_tagsOk (cs.map (fun c => Asn1.prim 0 6 c)) (by simp [asn1]) hlen
  rw [Proofs.Ber.berPurposes_seq _ ⟨by decide, by decide, hlen, hwl⟩,
    Proofs.mapM_map_some cs _ oidContentOf id (fun _ _ => rfl), List.map_id]
  rfl

example : berPurposes [encode (.cons 0 16 [Asn1.prim 0 6 [0x2b, 6, 1, 5, 5, 7, 3, 1], Asn1.prim 0 6 [0x2b, 6, 1, 5, 5, 7, 3, 2],
      Asn1.prim 0 6 [0x2b, 6, 1, 5, 5, 7, 3, 1]])] =
    some [[0x2b, 6, 1, 5, 5, 7, 3, 1], [0x2b, 6, 1, 5, 5, 7, 3, 2]] := by decide

/-! non-vacuity and the difference: SEQUENCE { OID 1.3.6.1.5.5.7.3.1 } with its length in the
    long form is read by the tolerant reader and not by the strict one; two elements in one value
    are reported as two -/
example : decodeAll [0x30, 0x81, 0x0a, 0x06, 0x08, 0x2b, 0x06, 0x01, 0x05, 0x05, 0x07, 0x03, 0x01] = none := by
  decide
example : decodeAllBer [0x30, 0x81, 0x0a, 0x06, 0x08, 0x2b, 0x06, 0x01, 0x05, 0x05, 0x07, 0x03, 0x01] =
    some (.cons 0 16 [.prim 0 6 [0x2b, 0x06, 0x01, 0x05, 0x05, 0x07, 0x03, 0x01]]) := by rfl
example : (elementsBer [0x30, 0x02, 0x05, 0x00, 0x30, 0x00]).map List.length = some 2 := by decide
example : berPurposes [[0x30, 0x0a, 0x06, 0x08, 0x2b, 0x06, 0x01, 0x05, 0x05, 0x07, 0x03, 0x01,
                        0x30, 0x0a, 0x06, 0x08, 0x2b, 0x06, 0x01, 0x05, 0x05, 0x07, 0x03, 0x02]] = none := by
  decide

end Rcgen.Theorems.C06
