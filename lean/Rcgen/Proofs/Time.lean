import Rcgen.Proofs.Date
import Rcgen.Model.Time
import Rcgen.Spec.Der
/-
  Printing the UTC fields of an instant and parsing them back (`parse_utcTimeBytes`,
  `parse_genTimeBytes`); the UTC year `utcYear` in whose terms C09 speaks, and what `writeTime` does
  in those terms (`writeTime_eq`, `asTime_utcTime`, `asTime_genTime`: they take the bound
  `0 ≤ utcYear dt ≤ 9999`, which `utcYear_of_checkTime` in Proofs/Checks.lean gives from
  `checkTime dt = none`).
-/
namespace Rcgen.Model
open Rcgen.Spec

theorem digitVal_digit (n : Nat) : digitVal (digit n) = some (n % 10) := by
  unfold digitVal digit
  rw [toNat_ofNat_lt (by omega)]
  have : 48 ≤ 48 + n % 10 ∧ 48 + n % 10 ≤ 57 := by omega
  simp [this]

theorem digitsVal_map_digit (ds : List Nat) :
    digitsVal (ds.map digit) = some (ds.foldl (fun a d => a * 10 + d % 10) 0) := by
  have h (bs : Bytes) : digitsVal bs = bs.foldl (fun acc b => match acc, digitVal b with
      | some a, some d => some (a * 10 + d)
      | _, _ => none) (some 0) := by cases bs <;> rfl
  rw [h]
  generalize 0 = a
  induction ds generalizing a with
  | nil => rfl
  | cons d ds ih => simp only [List.map_cons, List.foldl_cons, digitVal_digit]; exact ih _

theorem digitsVal_two (n : Nat) (h : n < 100) : digitsVal [digit (n / 10), digit n] = some n := by
  rw [show [digit (n / 10), digit n] = [n / 10, n].map digit from rfl, digitsVal_map_digit]
  simp only [List.foldl_cons, List.foldl_nil, Option.some.injEq]
  omega

theorem digitsVal_four (y : Nat) (h : y < 10000) :
    digitsVal [digit (y / 1000), digit (y / 100), digit (y / 10), digit y] = some y := by
  rw [show [digit (y / 1000), digit (y / 100), digit (y / 10), digit y] =
    [y / 1000, y / 100, y / 10, y].map digit from rfl, digitsVal_map_digit]
  simp only [List.foldl_cons, List.foldl_nil, Option.some.injEq]
  omega

theorem twoDigits_length (n : Nat) : (twoDigits n).length = 2 := rfl

theorem sod_fields (t : Int) :
    let sod := (t % 86400).toNat
    sod / 3600 < 24 ∧ sod / 60 % 60 < 60 ∧ sod % 60 < 60 ∧
    (t / 86400) * 86400 + ((sod / 3600 : Nat) : Int) * 3600 + ((sod / 60 % 60 : Nat) : Int) * 60 +
      ((sod % 60 : Nat) : Int) = t := by
  simp only
  have h0 : 0 ≤ t % 86400 := Int.emod_nonneg _ (by decide)
  have h1 : t % 86400 < 86400 := Int.emod_lt_of_pos _ (by decide)
  omega

theorem epochOfFields_utcOfEpoch (t : Int) :
    epochOfFields (utcOfEpoch t).year (utcOfEpoch t).month (utcOfEpoch t).day (utcOfEpoch t).hour
      (utcOfEpoch t).minute (utcOfEpoch t).second = some t := by
  simp only [utcOfEpoch]
  obtain ⟨v1, v2, v3, v4⟩ := civil_valid (t / 86400)
  obtain ⟨s1, s2, s3, s4⟩ := sod_fields t
  have hr := days_civil_roundtrip (t / 86400)
  unfold epochOfFields
  simp only [v1, v2, v3, v4, s1, s2, s3, and_self, if_true]
  rw [hr]
  exact congrArg some s4

theorem utcOfEpoch_midnight (y : Int) (m d : Nat) (hm1 : 1 ≤ m) (hm2 : m ≤ 12) (hd1 : 1 ≤ d)
    (hd2 : d ≤ daysInMonth y m) : utcOfEpoch (daysFromCivil y m d * 86400) = ⟨y, m, d, 0, 0, 0⟩ := by
  unfold utcOfEpoch
  rw [Int.mul_ediv_cancel _ (by decide), Int.mul_emod_left, civil_days_roundtrip y m d hm1 hm2 hd1 hd2]
  rfl

theorem utcTimeBytes_shape (u : UtcFields) :
    (utcTimeBytes u).length = 13 ∧ (utcTimeBytes u)[12]? = some 90 := by
  simp [utcTimeBytes, twoDigits]

theorem genTimeBytes_shape (u : UtcFields) :
    (genTimeBytes u).length = 15 ∧ (genTimeBytes u)[14]? = some 90 := by
  simp [genTimeBytes, twoDigits]

theorem fields_small {y : Int} {mo d h mi s : Nat} {t : Int}
    (hv : epochOfFields y mo d h mi s = some t) :
    mo < 100 ∧ d < 100 ∧ h < 100 ∧ mi < 100 ∧ s < 100 := by
  unfold epochOfFields at hv
  split at hv
  · have := daysInMonth_le y mo; omega
  · cases hv

theorem parse_utcTimeBytes (u : UtcFields) (hy : 1950 ≤ u.year ∧ u.year ≤ 2049) (t : Int)
    (hv : epochOfFields u.year u.month u.day u.hour u.minute u.second = some t) :
    parseUtcTime (utcTimeBytes u) = some t := by
  obtain ⟨hmo, hd, hh, hmi, hs⟩ := fields_small hv
  have hyy : u.year.toNat % 100 < 100 := Nat.mod_lt _ (by decide)
  have hyear : (if u.year.toNat % 100 ≥ 50 then 1900 + ((u.year.toNat % 100 : Nat) : Int)
      else 2000 + ((u.year.toNat % 100 : Nat) : Int)) = u.year := by
    split <;> omega
  simp only [parseUtcTime, utcTimeBytes, twoDigits, List.cons_append, List.nil_append,
    List.length_cons, List.length_nil, List.getElem?_cons_succ, List.getElem?_cons_zero,
    List.take_succ_cons, List.take_zero, List.drop_succ_cons, List.drop_zero, and_self, if_true,
    digitsVal_two _ hyy, digitsVal_two _ hmo, digitsVal_two _ hd, digitsVal_two _ hh,
    digitsVal_two _ hmi, digitsVal_two _ hs, hyear, hv]

theorem parse_genTimeBytes (u : UtcFields) (hy : 0 ≤ u.year ∧ u.year ≤ 9999) (t : Int)
    (hv : epochOfFields u.year u.month u.day u.hour u.minute u.second = some t) :
    parseGeneralizedTime (genTimeBytes u) = some t := by
  obtain ⟨hmo, hd, hh, hmi, hs⟩ := fields_small hv
  have hyy : u.year.toNat < 10000 := by omega
  have hyear : ((u.year.toNat : Nat) : Int) = u.year := by omega
  simp only [parseGeneralizedTime, genTimeBytes, twoDigits, List.cons_append, List.nil_append,
    List.length_cons, List.length_nil, List.getElem?_cons_succ, List.getElem?_cons_zero,
    List.take_succ_cons, List.take_zero, List.drop_succ_cons, List.drop_zero, and_self, if_true,
    digitsVal_four _ hyy, digitsVal_two _ hmo, digitsVal_two _ hd, digitsVal_two _ hh,
    digitsVal_two _ hmi, digitsVal_two _ hs, hyear, hv]

end Rcgen.Model

namespace Rcgen.Theorems.C09
open Rcgen.Model

/-- the UTC year of the instant a date-time denotes; in C09's name because C09 speaks in it, in
    this module because the lemmas below, which C09 rests on, do so already -/
def utcYear (dt : DateTime) : Int := (civilFromDays (dt.epochSeconds / 86400)).1

end Rcgen.Theorems.C09

namespace Rcgen.Model
open Rcgen.Spec
open Theorems.C09 (utcYear)

/-- stated, not left to unification: unfolding `utcYear` against `toUtc` is slow to check -/
theorem toUtc_year (dt : DateTime) : dt.toUtc.year = utcYear dt := by
  unfold utcYear DateTime.toUtc utcOfEpoch; rfl

theorem asTime_utcTime (dt : DateTime) (hy : 1950 ≤ utcYear dt ∧ utcYear dt ≤ 2049) :
    asTime (.utcTime (utcTimeBytes dt.toUtc)) = some (TimeForm.utc, dt.epochSeconds) := by
  simp only [Asn1.utcTime, asTime]
  rw [parse_utcTimeBytes dt.toUtc (by rw [toUtc_year]; exact hy) _
    (epochOfFields_utcOfEpoch dt.epochSeconds)]
  rfl

theorem asTime_genTime (dt : DateTime) (hy : 0 ≤ utcYear dt ∧ utcYear dt ≤ 9999) :
    asTime (.genTime (genTimeBytes dt.toUtc)) = some (TimeForm.generalized, dt.epochSeconds) := by
  simp only [Asn1.genTime, asTime]
  rw [parse_genTimeBytes dt.toUtc (by rw [toUtc_year]; exact hy) _
    (epochOfFields_utcOfEpoch dt.epochSeconds)]
  rfl

theorem writeTime_eq (dt : DateTime) :
    writeTime dt =
      if 1950 ≤ utcYear dt ∧ utcYear dt ≤ 2049 then .utcTime (utcTimeBytes dt.toUtc)
      else .genTime (genTimeBytes dt.toUtc) := by
  have : (1950 ≤ utcYear dt ∧ utcYear dt < 2050) ↔ (1950 ≤ utcYear dt ∧ utcYear dt ≤ 2049) := by
    omega
  unfold writeTime formYear
  simp only [toUtc_year, this]

theorem timeEncodable_iff_utcYear (dt : DateTime) :
    timeEncodable dt = true ↔ (0 ≤ utcYear dt ∧ utcYear dt ≤ 9999) := by
  unfold timeEncodable utcYear
  rw [← civil_year_bounds]
  simp only [Bool.and_eq_true, decide_eq_true_eq]
  omega

end Rcgen.Model
