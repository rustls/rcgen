import Rcgen.Proofs.DerRoundTrip
/-
  Well-formedness of a tree from two facts that are easy to establish for the model's writers:
  every tag is a low tag number in one of the four classes (`tagsOk`, a Bool, closed under the
  writers' combinators) and the whole encoding is shorter than 256^126 octets, the first length
  that the at most 126 length octets of the definite form cannot hold (`decLen_encLen`).
-/
namespace Rcgen

mutual
def tagsOk : Asn1 → Bool
  | .prim cls num _ => decide (cls < 4) && decide (num < 31)
  | .cons cls num ch => decide (cls < 4) && decide (num < 31) && tagsOkList ch
  | .raw _ => false
def tagsOkList : List Asn1 → Bool
  | [] => true
  | t :: ts => tagsOk t && tagsOkList ts
end

attribute [asn1] tagsOk

/- The list companions of the mutual definitions are `List.all` and `∀ t ∈ l`; stated once, the
   facts about `++`, `map` and membership are those of the library. -/
@[asn1] theorem tagsOkList_eq_all (l : List Asn1) : tagsOkList l = l.all tagsOk := by
  induction l with
  | nil => rfl
  | cons a l ih => simp [tagsOkList, ih]

theorem wfList_iff (l : List Asn1) : WFList l ↔ ∀ t ∈ l, t.WF := by
  induction l with
  | nil => simp [WFList]
  | cons a l ih => simp [WFList, ih]

theorem wfList_append {a b : List Asn1} (h : WFList (a ++ b)) : WFList a ∧ WFList b := by
  simp only [wfList_iff, List.mem_append] at h ⊢
  exact ⟨fun t ht => h t (.inl ht), fun t ht => h t (.inr ht)⟩

theorem Asn1.WF.kids {c n : Nat} {kids : List Asn1} (h : (Asn1.cons c n kids).WF) : WFList kids :=
  h.2.2.2

theorem Asn1.WF.kid {c n : Nat} {kids : List Asn1} (h : (Asn1.cons c n kids).WF)
    {t : Asn1} (ht : t ∈ kids) : t.WF := (wfList_iff kids).1 h.kids t ht

theorem tagsOk_implicit (n : Nat) (t : Asn1) (hn : n < 31) (h : tagsOk t = true) :
    tagsOk (Asn1.implicit n t) = true := by
  cases t <;> simp_all [asn1]

theorem encode_length_le_encodeList (t : Asn1) (ts : List Asn1) (h : t ∈ ts) :
    (encode t).length ≤ (encodeList ts).length := by
  induction ts with
  | nil => cases h
  | cons a l ih =>
    simp only [encodeList, List.length_append]
    rcases List.mem_cons.1 h with rfl | e
    · omega
    · have := ih e; omega

theorem encode_child_le {c n : Nat} {ks : List Asn1} {t : Asn1} (h : t ∈ ks) :
    (encode t).length ≤ (encode (.cons c n ks)).length := by
  have := encode_length_le_encodeList t ks h
  simp only [encode, List.length_cons, List.length_append]
  omega

mutual
theorem wf_of_tagsOk (t : Asn1) (h : tagsOk t = true) (hl : (encode t).length < 256 ^ 126) :
    t.WF := by
  match t with
  | .raw _ => simp [tagsOk] at h
  | .prim cls num c =>
    simp only [tagsOk, Bool.and_eq_true, decide_eq_true_eq] at h
    simp only [encode, List.length_cons, List.length_append] at hl
    exact ⟨h.1, h.2, by omega⟩
  | .cons cls num ch =>
    simp only [tagsOk, Bool.and_eq_true, decide_eq_true_eq] at h
    simp only [encode, List.length_cons, List.length_append] at hl
    exact ⟨h.1.1, h.1.2, by omega, wfList_of_tagsOk ch h.2 (by omega)⟩
theorem wfList_of_tagsOk (ts : List Asn1) (h : tagsOkList ts = true)
    (hl : (encodeList ts).length < 256 ^ 126) : WFList ts := by
  match ts with
  | [] => trivial
  | t :: ts =>
    simp only [tagsOkList, Bool.and_eq_true] at h
    simp only [encodeList, List.length_append] at hl
    exact ⟨wf_of_tagsOk t h.1 (by omega), wfList_of_tagsOk ts h.2 (by omega)⟩
end

/-- the round trip as it is used on a whole artefact: tags by computation, size by hypothesis -/
theorem decodeAll_encode_of_tagsOk (t : Asn1) (h : tagsOk t = true)
    (hl : (encode t).length < 256 ^ 126) : decodeAll (encode t) = some t :=
  decodeAll_encode t (wf_of_tagsOk t h hl)

end Rcgen
