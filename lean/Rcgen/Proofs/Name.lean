import Rcgen.Model.Name
/-
  The (association list, order vector) pair of `DistinguishedName` refines an insertion-ordered
  association list (C20, C15).  A keyed list is observed through `keys` and `List.lookup`; one
  without repeated keys is determined by the two (`entries_ext`).  So each operation is described
  by what `get`, `order` and `keys` return after it, and the refinement theorems of C20 compare
  observations (`iter_eq`).  That `push` and `remove` keep `Inv` is `C20.inv_push`, `C20.inv_remove`.
-/
namespace Rcgen.Model
open DistinguishedName

abbrev Entries := List (DnType × DnValue)

/-- the abstract specification: an insertion-ordered association list with unique keys -/
def absPush : Entries → DnType → DnValue → Entries
  | [], ty, v => [(ty, v)]
  | (k, w) :: rest, ty, v => if k = ty then (k, v) :: rest else (k, w) :: absPush rest ty v

def absRemove (a : Entries) (ty : DnType) : Entries × Bool :=
  (a.filter (fun e => e.1 ≠ ty), a.any (fun e => e.1 = ty))

def keys (es : Entries) : List DnType := es.map Prod.fst

/-- representation invariant of `DistinguishedName` -/
structure Inv (dn : DistinguishedName) : Prop where
  orderNodup : dn.order.Nodup
  keysNodup : (keys dn.entries).Nodup
  same : ∀ t, t ∈ dn.order ↔ t ∈ keys dn.entries

theorem keys_cons (k : DnType) (w : DnValue) (es : Entries) : keys ((k, w) :: es) = k :: keys es := rfl

theorem lookup_cons_ite (k : DnType) (w : DnValue) (es : Entries) (t : DnType) :
    List.lookup t ((k, w) :: es) = if t = k then some w else es.lookup t := by
  rw [List.lookup_cons]
  by_cases h : t = k
  · rw [if_pos h, beq_iff_eq.2 h]
  · rw [if_neg h, beq_false_of_ne h]

theorem lookup_isSome_iff (es : Entries) (t : DnType) :
    (es.lookup t).isSome ↔ t ∈ keys es := by
  rw [List.lookup_isSome_iff, keys, List.mem_map]
  simp only [beq_iff_eq]
  exact ⟨fun ⟨p, hp, e⟩ => ⟨p, hp, e.symm⟩, fun ⟨p, hp, e⟩ => ⟨p, hp, e.symm⟩⟩

theorem exists_lookup_of_mem_keys {es : Entries} {t : DnType} (h : t ∈ keys es) :
    ∃ v, es.lookup t = some v :=
  Option.isSome_iff_exists.1 ((lookup_isSome_iff es t).2 h)

theorem any_key_iff (es : Entries) (ty : DnType) :
    es.any (fun e => e.1 = ty) = true ↔ ty ∈ keys es := by
  rw [List.any_eq_true, keys, List.mem_map]
  simp only [decide_eq_true_eq]

theorem lookup_eq_none (es : Entries) (t : DnType) (h : t ∉ keys es) : es.lookup t = none :=
  Option.not_isSome_iff_eq_none.1 (mt (lookup_isSome_iff es t).1 h)

theorem containsKey_iff (dn : DistinguishedName) (ty : DnType) :
    dn.containsKey ty = true ↔ ty ∈ keys dn.entries := lookup_isSome_iff dn.entries ty

theorem entries_ext {a b : Entries} (hnd : (keys a).Nodup) (hk : keys a = keys b)
    (hl : ∀ t ∈ keys a, a.lookup t = b.lookup t) : a = b := by
  induction a generalizing b with
  | nil => cases b with
    | nil => rfl
    | cons _ _ => cases hk
  | cons e a ih =>
    obtain ⟨k, w⟩ := e
    cases b with
    | nil => cases hk
    | cons e' b =>
      obtain ⟨k', w'⟩ := e'
      obtain ⟨rfl, hkt⟩ := List.cons.inj hk
      obtain ⟨hka, hnd⟩ := List.nodup_cons.1 hnd
      have hw := hl k List.mem_cons_self
      rw [List.lookup_cons_self, List.lookup_cons_self] at hw
      cases hw
      rw [ih hnd hkt fun t ht => ?_]
      have hne : t ≠ k := fun e => hka (e ▸ ht)
      simpa only [lookup_cons_ite, if_neg hne] using hl t (List.mem_cons_of_mem _ ht)

theorem absPush_eq_mapInsert (a : Entries) (ty : DnType) (v : DnValue) :
    absPush a ty v = mapInsert a ty v := by
  induction a with
  | nil => rfl
  | cons e es ih => obtain ⟨k, w⟩ := e; simp only [absPush, mapInsert, ih]

theorem lookup_mapInsert (es : Entries) (ty : DnType) (v : DnValue) (t : DnType) :
    (mapInsert es ty v).lookup t = if t = ty then some v else es.lookup t := by
  induction es with
  | nil => rw [mapInsert, lookup_cons_ite]
  | cons e es ih =>
    obtain ⟨k, w⟩ := e
    rw [mapInsert]
    split
    · rename_i hk; subst hk
      rw [lookup_cons_ite, lookup_cons_ite]
      by_cases h : t = k <;> simp [h]
    · rename_i hk
      rw [lookup_cons_ite, lookup_cons_ite, ih]
      by_cases h : t = k
      · subst h; simp [hk]
      · simp [h]

theorem keys_mapInsert (es : Entries) (ty : DnType) (v : DnValue) :
    keys (mapInsert es ty v) = if ty ∈ keys es then keys es else keys es ++ [ty] := by
  induction es with
  | nil => rfl
  | cons e es ih =>
    obtain ⟨k, w⟩ := e
    rw [mapInsert]
    split
    · rename_i hk; subst hk; simp [keys_cons]
    · rename_i hk
      have hk' : ¬ ty = k := fun e => hk e.symm
      simp only [keys_cons, ih, List.mem_cons, hk', false_or]
      split <;> rfl

theorem keys_mapInsert_mem (es : Entries) (ty : DnType) (v : DnValue) (t : DnType) :
    t ∈ keys (mapInsert es ty v) ↔ t = ty ∨ t ∈ keys es := by
  rw [keys_mapInsert]
  split
  · rename_i h; exact ⟨Or.inr, fun h' => h'.elim (· ▸ h) id⟩
  · rw [List.mem_append, List.mem_singleton, or_comm]

theorem lookup_mapRemove (es : Entries) (ty t : DnType) :
    (mapRemove es ty).lookup t = if t = ty then none else es.lookup t := by
  induction es with
  | nil => simp [mapRemove]
  | cons e es ih =>
    obtain ⟨k, w⟩ := e
    have hcons : mapRemove ((k, w) :: es) ty =
        if k = ty then mapRemove es ty else (k, w) :: mapRemove es ty := by
      by_cases hk : k = ty <;> simp [mapRemove, hk]
    rw [hcons, lookup_cons_ite]
    split
    · rename_i hk; subst hk
      rw [ih]
      by_cases h : t = k <;> simp [h]
    · rename_i hk
      rw [lookup_cons_ite, ih]
      by_cases h : t = k
      · subst h; simp [hk]
      · simp [h]

theorem keys_mapRemove (es : Entries) (ty : DnType) :
    keys (mapRemove es ty) = (keys es).filter (fun t => t ≠ ty) := by
  simp only [keys, mapRemove, List.filter_map]; rfl

/-- under the invariant the iterator never stops early: it is `order` decorated with values -/
theorem iterFrom_eq_map (es : Entries) (order : List DnType)
    (h : ∀ t ∈ order, t ∈ keys es) :
    ∃ vs : List DnValue, vs.length = order.length ∧ iterFrom es order = order.zip vs ∧
      ∀ p ∈ order.zip vs, es.lookup p.1 = some p.2 := by
  induction order with
  | nil => exact ⟨[], rfl, rfl, by simp⟩
  | cons t rest ih =>
    obtain ⟨vs, hl, hi, hv⟩ := ih fun x hx => h x (List.mem_cons_of_mem _ hx)
    obtain ⟨v, hlk⟩ := exists_lookup_of_mem_keys (h t List.mem_cons_self)
    refine ⟨v :: vs, by simp [hl], by simp [iterFrom, hlk, hi], ?_⟩
    intro p hp
    rcases List.mem_cons.1 hp with hp | hp
    · subst hp; exact hlk
    · exact hv p hp

theorem keys_iterFrom (es : Entries) (order : List DnType) (h : ∀ t ∈ order, t ∈ keys es) :
    keys (iterFrom es order) = order := by
  induction order with
  | nil => rfl
  | cons k rest ih =>
    obtain ⟨v, hv⟩ := exists_lookup_of_mem_keys (h k List.mem_cons_self)
    rw [iterFrom, hv, keys_cons, ih fun x hx => h x (List.mem_cons_of_mem _ hx)]

theorem lookup_iterFrom (es : Entries) (order : List DnType) (t : DnType) (ht : t ∈ order)
    (h : ∀ t ∈ order, t ∈ keys es) : (iterFrom es order).lookup t = es.lookup t := by
  induction order with
  | nil => cases ht
  | cons k rest ih =>
    obtain ⟨v, hv⟩ := exists_lookup_of_mem_keys (h k List.mem_cons_self)
    rw [iterFrom, hv, lookup_cons_ite]
    by_cases e : t = k
    · rw [if_pos e, e, hv]
    · rw [if_neg e]
      exact ih ((List.mem_cons.1 ht).resolve_left e) fun x hx => h x (List.mem_cons_of_mem _ hx)

theorem iterFrom_congr (es es' : Entries) (order : List DnType)
    (h : ∀ t ∈ order, es.lookup t = es'.lookup t) : iterFrom es order = iterFrom es' order := by
  induction order with
  | nil => rfl
  | cons k rest ih =>
    simp only [iterFrom]
    rw [h k List.mem_cons_self, ih fun t ht => h t (List.mem_cons_of_mem _ ht)]

theorem nodup_snoc {l : List DnType} {a : DnType} (h : l.Nodup) (ha : a ∉ l) : (l ++ [a]).Nodup :=
  List.nodup_append.2 ⟨h, by simp,
    fun x hx y hy e => ha (List.mem_singleton.1 hy ▸ e ▸ hx)⟩

theorem filter_ne_of_not_mem {l : List DnType} {ty : DnType} (h : ty ∉ l) :
    l.filter (fun t => t ≠ ty) = l :=
  List.filter_eq_self.2 fun _ ht => decide_eq_true fun e => h (e ▸ ht)

theorem DistinguishedName.get_push (dn : DistinguishedName) (ty : DnType) (v : DnValue) (t : DnType) :
    (dn.push ty v).get t = if t = ty then some v else dn.get t := lookup_mapInsert dn.entries ty v t

theorem DistinguishedName.order_push (dn : DistinguishedName) (ty : DnType) (v : DnValue) :
    (dn.push ty v).order = if ty ∈ keys dn.entries then dn.order else dn.order ++ [ty] := by
  simp only [push, containsKey_iff]

theorem DistinguishedName.keys_push (dn : DistinguishedName) (ty : DnType) (v : DnValue) :
    keys (dn.push ty v).entries = if ty ∈ keys dn.entries then keys dn.entries else keys dn.entries ++ [ty] :=
  keys_mapInsert dn.entries ty v

theorem DistinguishedName.get_remove (dn : DistinguishedName) (ty t : DnType) :
    (dn.remove ty).1.get t = if t = ty then none else dn.get t := by
  unfold remove
  split
  · exact lookup_mapRemove dn.entries ty t
  · rename_i hc
    split
    · rename_i e; exact e ▸ Option.not_isSome_iff_eq_none.1 hc
    · rfl

theorem DistinguishedName.order_remove (dn : DistinguishedName) (h : Inv dn) (ty : DnType) :
    (dn.remove ty).1.order = dn.order.filter (fun t => t ≠ ty) := by
  unfold remove
  split
  · exact List.filter_congr fun t _ => decide_eq_decide.2 ne_comm
  · rename_i hc
    exact (filter_ne_of_not_mem fun hm => hc ((containsKey_iff dn ty).2 ((h.same ty).1 hm))).symm

theorem DistinguishedName.keys_remove (dn : DistinguishedName) (ty : DnType) :
    keys (dn.remove ty).1.entries = (keys dn.entries).filter (fun t => t ≠ ty) := by
  unfold remove
  split
  · exact keys_mapRemove dn.entries ty
  · rename_i hc
    exact (filter_ne_of_not_mem fun hm => hc ((containsKey_iff dn ty).2 hm)).symm

theorem DistinguishedName.remove_snd (dn : DistinguishedName) (ty : DnType) :
    (dn.remove ty).2 = dn.containsKey ty := by
  unfold remove
  split
  · rename_i hc; exact hc.symm
  · rename_i hc; exact (Bool.eq_false_iff.2 hc).symm

theorem DistinguishedName.keys_iter (dn : DistinguishedName) (h : Inv dn) : keys dn.iter = dn.order :=
  keys_iterFrom _ _ fun t => (h.same t).1

theorem DistinguishedName.lookup_iter (dn : DistinguishedName) (h : Inv dn) (t : DnType) :
    dn.iter.lookup t = dn.get t := by
  by_cases ht : t ∈ dn.order
  · exact lookup_iterFrom _ _ t ht fun t => (h.same t).1
  · rw [DistinguishedName.get, lookup_eq_none _ _ (mt (h.same t).2 ht),
      lookup_eq_none _ _ (keys_iter dn h ▸ ht)]

/-- both refinement theorems of C20 are instances -/
theorem DistinguishedName.iter_eq (dn : DistinguishedName) (h : Inv dn) (a : Entries)
    (hk : keys a = dn.order) (hl : ∀ t, a.lookup t = dn.get t) : dn.iter = a :=
  entries_ext (keys_iter dn h ▸ h.orderNodup) ((keys_iter dn h).trans hk.symm)
    fun t _ => (lookup_iter dn h t).trans (hl t).symm

/-- both have the keys of `order` -/
theorem DistinguishedName.entries_isEmpty (dn : DistinguishedName) (h : Inv dn) :
    dn.entries.isEmpty = dn.iter.isEmpty := by
  have hk : ∀ es : Entries, es.isEmpty = (keys es).isEmpty := fun es => by cases es <;> rfl
  rw [hk, hk, dn.keys_iter h, Bool.eq_iff_iff, List.isEmpty_iff, List.isEmpty_iff,
    List.eq_nil_iff_forall_not_mem, List.eq_nil_iff_forall_not_mem]
  exact forall_congr' fun t => not_congr (h.same t).symm

end Rcgen.Model
