import Rcgen.Proofs.ImportFields
import Rcgen.Theorems.C03_Chain
/-
  C17 end to end on the model: importing what a generated certificate decodes to returns
  parameters whose supported fields equal the generating ones — `importCa_generated` is the import
  as one equation (from one `…_step` lemma per extension), `import_of_generated` reads the fields
  off it.  Last, for any certificate: what the build without a crypto back end changes in the
  import (`importCa_cryptoless`, C16).
-/
namespace Rcgen.Proofs.ImportDecode
open Rcgen.Model Rcgen.Spec Rcgen.Proofs.X509 Rcgen.Proofs.CertDecode Rcgen.Proofs.Validate

theorem uniqueExt_model (i : CertInputs) (hc : ∀ e ∈ i.p.customExts, e.oid ∉ knownOids)
    (o : List Nat) (ho : o ∈ knownOids) :
    uniqueExt (modelTbs i) o = .ok ((modelExts i).find? (hasOid o)) :=
  ImportFields.uniqueExt_of_le_one (modelTbs i) o (own_oid_at_most_once i hc o ho)

theorem find_ext_eq (i : CertInputs) (o : List Nat) :
    (modelExts i).find? (hasOid o) = ((modelTbs i).exts.find? (hasOid o)) := rfl

theorem findWhole_bc (i : CertInputs) (hc : ∀ e ∈ i.p.customExts, e.oid ∉ knownOids) :
    ((modelExts i).find? (hasOid [2, 5, 29, 19])).map (·.value) =
      (match i.p.isCa with
       | .ca pl => some (.basicConstraints true pl)
       | .explicitNoCa => some (.basicConstraints false none)
       | .noCa => none) := by
  rw [find_bc i hc]; cases i.p.isCa <;> rfl

section steps
variable (i : CertInputs) (hc : ∀ e ∈ i.p.customExts, e.oid ∉ knownOids)
include hc

theorem isCa_step (hpl : ∀ n, i.p.isCa = .ca (some n) → n ≤ 255) :
    importIsCa ((modelExts i).find? (hasOid [2, 5, 29, 19])) = .ok i.p.isCa := by
  rw [find_bc i hc]
  cases hca : i.p.isCa with
  | noCa => rfl
  | explicitNoCa => rfl
  | ca pl =>
    cases pl with
    | none => rfl
    | some n => exact if_pos (hpl n hca)

theorem san_step (hip : ∀ o, SanType.ip o ∈ i.p.sans → o.length = 4 ∨ o.length = 16)
    (hother : ∀ oid v, SanType.otherName oid v ∈ i.p.sans → utf8Valid v = true ∧ ∀ x ∈ oid, x < 2 ^ 64) :
    importSanExt ((modelExts i).find? (hasOid [2, 5, 29, 17])) = .ok i.p.sans := by
  rw [find_san i hc, sanRow]
  cases hk : i.p.sans.isEmpty with
  | true => rw [List.isEmpty_iff.1 hk]; rfl
  | false => exact ImportFields.sans_recovered i.p.sans hip hother

theorem ku_step :
    importKuExt ((modelExts i).find? (hasOid [2, 5, 29, 15])) =
      KeyUsage.all.filter (fun k => i.p.keyUsages.contains k) := by
  rw [find_ku i hc, kuRow]
  cases hk : i.p.keyUsages.isEmpty with
  | true => rw [List.isEmpty_iff.1 hk]; rfl
  | false => exact ImportFields.key_usage_reversal _

theorem eku_step :
    importEkuExt ((modelExts i).find? (hasOid [2, 5, 29, 37])) = importEkus (i.p.ekus.map rfcEkuOid) := by
  rw [find_eku i hc, ekuRow]
  cases hk : i.p.ekus.isEmpty with
  | true => rw [List.isEmpty_iff.1 hk]; rfl
  | false => rfl

theorem nc_step (hnc : ∀ nc, i.p.nameConstraints = some nc →
      nc.permitted.all ImportFields.subtreeSupported = true ∧
      nc.excluded.all ImportFields.subtreeSupported = true) :
    importNcExt ((modelExts i).find? (hasOid [2, 5, 29, 30])) =
      .ok (i.p.nameConstraints.filter fun nc => !nc.isEmpty) := by
  rw [find_nc i hc]
  cases hn : i.p.nameConstraints with
  | none => rfl
  | some nc =>
    obtain ⟨hp, he⟩ := hnc nc hn
    cases hem : nc.isEmpty with
    | true => simp only [ncRow, hem, if_true, Option.filter]; rfl
    | false =>
      simp only [ncRow, hem, Bool.false_eq_true, if_false, List.head?_cons, importNcExt,
        ImportFields.subtrees_recovered _ hp, ImportFields.subtrees_recovered _ he, Option.filter,
        Bool.not_false, if_true]

end steps

/-- what the import returns for a generated certificate, given the two results that depend on
    more than the parameters' own fields: the imported name and key identifier -/
def imported (i : CertInputs) (dn : DistinguishedName) (kid : KeyIdMethod) : CertParams :=
  { notBefore := dateTimeOfEpoch i.p.notBefore.epochSeconds,
    notAfter := dateTimeOfEpoch i.p.notAfter.epochSeconds,
    serial := some (serialBytesOfNat (reqSerial i)), sans := i.p.sans, dn := dn, isCa := i.p.isCa,
    keyUsages := KeyUsage.all.filter (fun k => i.p.keyUsages.contains k),
    ekus := importEkus (i.p.ekus.map rfcEkuOid),
    nameConstraints := i.p.nameConstraints.filter fun nc => !nc.isEmpty,
    crlDps := [], customExts := [], useAki := false, keyIdMethod := kid }

theorem importCa_generated (crypto : Bool) (i : CertInputs)
    (hc : ∀ e ∈ i.p.customExts, e.oid ∉ knownOids)
    (hpl : ∀ n, i.p.isCa = .ca (some n) → n ≤ 255)
    (hip : ∀ o, SanType.ip o ∈ i.p.sans → o.length = 4 ∨ o.length = 16)
    (hother : ∀ oid v, SanType.otherName oid v ∈ i.p.sans → utf8Valid v = true ∧ ∀ x ∈ oid, x < 2 ^ 64)
    (hnc : ∀ nc, i.p.nameConstraints = some nc →
      nc.permitted.all ImportFields.subtreeSupported = true ∧
      nc.excluded.all ImportFields.subtreeSupported = true) :
    importCa crypto (modelTbs i) =
      (do let dn ← importName (reqName i.p.dn.iter)
          let kid ← importKid crypto (modelTbs i)
          pure (imported i dn kid)) := by
  unfold importCa
  -- one lookup per extension the glue reads: basicConstraints, SAN, keyUsage, EKU, nameConstraints
  rw [uniqueExt_model i hc _ (by decide), uniqueExt_model i hc _ (by decide),
    uniqueExt_model i hc _ (by decide), uniqueExt_model i hc _ (by decide),
    uniqueExt_model i hc _ (by decide)]
  simp only [ok_bind, isCa_step i hc hpl, san_step i hc hip hother, ku_step i hc,
    eku_step i hc, nc_step i hc hnc]
  rfl

theorem import_of_generated (crypto : Bool) (i : CertInputs)
    (hc : ∀ e ∈ i.p.customExts, e.oid ∉ knownOids) (p' : CertParams)
    (h : importCa crypto (modelTbs i) = .ok p')
    (hpl : ∀ n, i.p.isCa = .ca (some n) → n ≤ 255)
    (hip : ∀ o, SanType.ip o ∈ i.p.sans → o.length = 4 ∨ o.length = 16)
    (hother : ∀ oid v, SanType.otherName oid v ∈ i.p.sans → utf8Valid v = true ∧ ∀ x ∈ oid, x < 2 ^ 64)
    (hnc : ∀ nc, i.p.nameConstraints = some nc →
      nc.permitted.all ImportFields.subtreeSupported = true ∧
      nc.excluded.all ImportFields.subtreeSupported = true) :
    reqName p'.dn.iter = reqName i.p.dn.iter ∧
    p'.isCa = i.p.isCa ∧
    p'.keyUsages = KeyUsage.all.filter (fun k => i.p.keyUsages.contains k) ∧
    (∀ e, e ∈ p'.ekus ↔ (e ∈ stdEkus ∧ ∃ x ∈ i.p.ekus, rfcEkuOid x = e.oid)) ∧
    p'.sans = i.p.sans ∧
    p'.nameConstraints = (match i.p.nameConstraints with
      | some nc => if nc.isEmpty then none else some nc
      | none => none) ∧
    (∀ s, p'.serial = some s → ofBe s = reqSerial i) ∧
    p'.notBefore.epochSeconds = i.p.notBefore.epochSeconds ∧
    p'.notAfter.epochSeconds = i.p.notAfter.epochSeconds := by
  rw [importCa_generated crypto i hc hpl hip hother hnc] at h
  obtain ⟨dn, hdn, h⟩ := bind_ok h
  obtain ⟨kid, _, h⟩ := bind_ok h
  cases h
  refine ⟨Theorems.C03.import_preserves_or_fails _ _ hdn, rfl, rfl, ImportFields.ekus_recovered _, rfl, ?_,
    fun s hs => by cases hs; exact ImportFields.serial_recovered _,
    ImportFields.validity_recovered _, ImportFields.validity_recovered _⟩
  show i.p.nameConstraints.filter _ = _
  cases i.p.nameConstraints with
  | none => rfl
  | some nc => cases hem : nc.isEmpty <;> simp [Option.filter, hem]

/-- the back end is consulted only for the key identifier of a certificate that states none; a
    stated one is the one handed out -/
theorem importCa_cryptoless (c : TbsCert) (p : CertParams) :
    importCa false c = .ok p ↔ importCa true c = .ok p ∧
      ∃ b rest, c.exts.filterMap skiOf = b :: rest ∧ p.keyIdMethod = .preSpecified b := by
  have same {b rest} (hb : c.exts.filterMap skiOf = b :: rest) : importCa false c = importCa true c := by
    unfold importCa importKid; rw [hb]
  constructor
  · intro h
    have hk := (Theorems.C03.importCa_name_and_kid false c p h).2
    unfold importKid at hk
    split at hk
    · rename_i b rest hb
      exact ⟨(same hb).symm.trans h, b, rest, hb, (Except.ok.inj hk).symm⟩
    · cases hk
  · rintro ⟨h, b, rest, hb, -⟩
    exact (same hb).trans h

end Rcgen.Proofs.ImportDecode
