import Rcgen.Model.Pem
import Rcgen.Spec.Pem
import Rcgen.Proofs.Basic
/-
  The strict decoder (Spec/Pem.lean) inverts `pemEncode` under any label that holds no LF
  (`pemDecode_pemEncode`).
-/
namespace Rcgen.Model
open Rcgen.Spec
open Rcgen.Proofs (div_mod_digits)

theorem b64Val_b64Char (n : Nat) (h : n < 64) : b64Val (b64Char n) = some n :=
  (by decide +kernel : ∀ m, m < 64 → b64Val (b64Char m) = some m) n h

/-- beyond 63 `b64Char` is `/` again, so a test on octets passes on every `b64Char n` if it
    passes on the 64 characters -/
theorem b64Char_all (P : UInt8 → Bool) (h : ∀ m, m < 64 → P (b64Char m) = true) (n : Nat) :
    P (b64Char n) = true := by
  by_cases hn : n < 64
  · exact h n hn
  · have : b64Char n = b64Char 63 := by
      rw [b64Char, if_neg (by omega), if_neg (by omega), if_neg (by omega), if_neg (by omega)]; rfl
    rw [this]; exact h 63 (by decide)

theorem b64Encode_all (P : UInt8 → Bool) (hP : ∀ m, m < 64 → P (b64Char m) = true)
    (hpad : P 61 = true) (d : Bytes) : (b64Encode d).all P = true := by
  fun_induction b64Encode d <;>
    simp only [List.all_cons, List.all_nil, b64Char_all P hP, Bool.and_self, *]

theorem b64Encode_no_lf (d : Bytes) : ∀ x ∈ b64Encode d, x ≠ 10 := fun x hx =>
  bne_iff_ne.1 (List.all_eq_true.1 (b64Encode_all (· != 10) (by decide +kernel) rfl d) x hx)

theorem b64Val_ne_pad {c : UInt8} {z : Nat} (h : b64Val c = some z) : c ≠ 61 := by
  rintro rfl; cases h

/-- in front of nothing, the decoder's padding arm is taken and falls through to the same three
    octets -/
theorem b64Decode_group {a b c d : UInt8} {x y z w : Nat} {rest r : Bytes}
    (ha : b64Val a = some x) (hb : b64Val b = some y) (hc : b64Val c = some z)
    (hd : b64Val d = some w) (hr : b64Decode rest = some r) :
    b64Decode (a :: b :: c :: d :: rest) =
      some (UInt8.ofNat (x * 4 + y / 16) :: UInt8.ofNat (y % 16 * 16 + z / 4) ::
        UInt8.ofNat (z % 4 * 64 + w) :: r) := by
  cases rest with
  | nil =>
    cases hr
    simp only [b64Decode, ha, hb, hc, hd, b64Val_ne_pad hc, b64Val_ne_pad hd, false_and, if_false]
  | cons e rest => simp only [b64Decode, ha, hb, hc, hd, hr]

theorem b64Decode_pad1 {a b c : UInt8} {x y z : Nat}
    (ha : b64Val a = some x) (hb : b64Val b = some y) (hc : b64Val c = some z) (hz : z % 4 = 0) :
    b64Decode [a, b, c, 61] =
      some [UInt8.ofNat (x * 4 + y / 16), UInt8.ofNat (y % 16 * 16 + z / 4)] := by
  simp only [b64Decode, ha, hb, hc, hz, b64Val_ne_pad hc, false_and, if_false, if_true]

theorem b64Decode_pad2 {a b : UInt8} {x y : Nat}
    (ha : b64Val a = some x) (hb : b64Val b = some y) (hy : y % 16 = 0) :
    b64Decode [a, b, 61, 61] = some [UInt8.ofNat (x * 4 + y / 16)] := by
  simp only [b64Decode, ha, hb, hy, and_self, if_true]

theorem sextets (a b c : UInt8) :
    a.toNat / 4 < 64 ∧ a.toNat % 4 * 16 + b.toNat / 16 < 64 ∧
    b.toNat % 16 * 4 + c.toNat / 64 < 64 ∧ c.toNat % 64 < 64 ∧
    b.toNat / 16 < 16 ∧ c.toNat / 64 < 4 := by
  have := a.toNat_lt; have := b.toNat_lt; have := c.toNat_lt; omega

/-- the decoder reads the four values back (`b64Val_b64Char`), and each octet is put together
    from the two digits it was split into (`div_mod_digits`) -/
theorem b64Decode_b64Encode : ∀ (d : Bytes), b64Decode (b64Encode d) = some d := by
  intro d
  fun_induction b64Encode d with
  | case1 a b c rest ih =>
    obtain ⟨h1, h2, h3, h4, hb, hc⟩ := sextets a b c
    rw [b64Decode_group (b64Val_b64Char _ h1) (b64Val_b64Char _ h2) (b64Val_b64Char _ h3)
      (b64Val_b64Char _ h4) ih]
    simp only [div_mod_digits hb, div_mod_digits hc, Nat.div_add_mod', UInt8.ofNat_toNat]
  | case2 a b =>
    obtain ⟨h1, h2, -, -, hb, -⟩ := sextets a b 0
    have h3 : b.toNat % 16 * 4 < 64 := by omega
    rw [b64Decode_pad1 (b64Val_b64Char _ h1) (b64Val_b64Char _ h2) (b64Val_b64Char _ h3)
      (Nat.mul_mod_left ..)]
    simp only [div_mod_digits hb, Nat.mul_div_left, Nat.div_add_mod', UInt8.ofNat_toNat,
      Nat.zero_lt_succ]
  | case3 a =>
    obtain ⟨h1, -⟩ := sextets a 0 0
    have h2 : a.toNat % 4 * 16 < 64 := by omega
    rw [b64Decode_pad2 (b64Val_b64Char _ h1) (b64Val_b64Char _ h2) (Nat.mul_mod_left ..)]
    simp only [Nat.mul_div_left, Nat.div_add_mod', UInt8.ofNat_toNat, Nat.zero_lt_succ]
  | case4 => rfl

theorem chunksAux_eq_nil {n f : Nat} {s : Bytes} (hf : s.length ≤ f) :
    chunksAux n f s = [] ↔ s = [] := by
  fun_induction chunksAux n f s with
  | case1 s => exact iff_of_true rfl (List.eq_nil_of_length_eq_zero (Nat.le_zero.1 hf))
  | case2 => exact iff_of_true rfl rfl
  | case3 => exact iff_of_false (List.cons_ne_nil _ _) (List.cons_ne_nil _ _)

theorem chunksAux_flatten (n : Nat) (hn : 0 < n) (f : Nat) (s : Bytes) (hf : s.length ≤ f) :
    (chunksAux n f s).flatten = s := by
  fun_induction chunksAux n f s with
  | case1 s => exact (List.eq_nil_of_length_eq_zero (Nat.le_zero.1 hf)).symm
  | case2 => rfl
  | case3 f b s ih =>
    rw [List.flatten_cons, ih (by rw [List.length_drop]; omega), List.take_append_drop]

theorem chunksAux_nonempty (n : Nat) (hn : 0 < n) (f : Nat) (s : Bytes) :
    ∀ c ∈ chunksAux n f s, c ≠ [] := by
  fun_induction chunksAux n f s with
  | case1 => nofun
  | case2 => nofun
  | case3 f b s ih =>
    obtain ⟨m, rfl⟩ := Nat.exists_eq_succ_of_ne_zero (Nat.ne_of_gt hn)
    exact List.forall_mem_cons.2 ⟨List.cons_ne_nil _ _, ih⟩

/-- every chunk but the last has exactly `n` elements, the last has 1..n -/
def shapeOk (n : Nat) : List Bytes → Bool
  | [] => true
  | [l] => 1 ≤ l.length && l.length ≤ n
  | l :: rest => l.length == n && shapeOk n rest

theorem shapeOk_cons {n : Nat} {l : Bytes} {rest : List Bytes} (h : rest ≠ []) :
    shapeOk n (l :: rest) = (l.length == n && shapeOk n rest) := by
  cases rest with
  | nil => exact absurd rfl h
  | cons _ _ => rfl

theorem chunksAux_shape (n : Nat) (hn : 0 < n) (f : Nat) (s : Bytes) (hf : s.length ≤ f) :
    shapeOk n (chunksAux n f s) = true := by
  fun_induction chunksAux n f s with
  | case1 => rfl
  | case2 => rfl
  | case3 f b s ih =>
    have hd : ((b :: s).drop n).length ≤ f := by rw [List.length_drop]; omega
    by_cases hlast : (b :: s).length ≤ n
    · -- the last chunk: all that is left, 1..n octets
      rw [List.drop_eq_nil_iff.2 hlast, (chunksAux_eq_nil (Nat.zero_le f)).2 rfl,
        List.take_of_length_le hlast]
      exact Bool.and_eq_true_iff.2 ⟨decide_eq_true (Nat.succ_pos _), decide_eq_true hlast⟩
    · -- a full chunk, and more to come
      have hmore : chunksAux n f ((b :: s).drop n) ≠ [] :=
        mt (chunksAux_eq_nil hd).1 (mt List.drop_eq_nil_iff.1 hlast)
      rw [shapeOk_cons hmore, ih hd, List.length_take_of_le (Nat.le_of_not_le hlast),
        beq_self_eq_true]
      rfl

theorem chunks_flatten {n : Nat} (hn : 0 < n) (s : Bytes) : (chunks n s).flatten = s :=
  chunksAux_flatten n hn _ s (Nat.le_refl _)

theorem chunks_nonempty {n : Nat} (hn : 0 < n) (s : Bytes) : ∀ c ∈ chunks n s, c ≠ [] :=
  chunksAux_nonempty n hn _ s

theorem chunks_shape {n : Nat} (hn : 0 < n) (s : Bytes) : shapeOk n (chunks n s) = true :=
  chunksAux_shape n hn _ s (Nat.le_refl _)

theorem mem_of_mem_chunks {n : Nat} (hn : 0 < n) {s l : Bytes} {x : UInt8} (hl : l ∈ chunks n s)
    (hx : x ∈ l) : x ∈ s :=
  chunks_flatten hn s ▸ List.mem_flatten.2 ⟨l, hl, hx⟩

theorem splitLf_ne_nil (l : Bytes) : splitLf l ≠ [] := by
  cases l with
  | nil => exact List.cons_ne_nil _ _
  | cons b rest =>
    rw [splitLf]
    split
    · exact List.cons_ne_nil _ _
    · split <;> exact List.cons_ne_nil _ _

theorem splitLf_cons (b : UInt8) {rest first : Bytes} {more : List Bytes}
    (hr : splitLf rest = first :: more) :
    splitLf (b :: rest) = if b = 10 then [] :: first :: more else (b :: first) :: more := by
  rw [splitLf, hr]

theorem splitLf_append {l rest first : Bytes} {more : List Bytes} (hl : ∀ x ∈ l, x ≠ 10)
    (hr : splitLf rest = first :: more) : splitLf (l ++ rest) = (l ++ first) :: more := by
  induction l with
  | nil => exact hr
  | cons b l ih =>
    rw [List.cons_append, splitLf_cons b (ih fun x hx => hl x (List.mem_cons_of_mem _ hx)),
      if_neg (hl b List.mem_cons_self), List.cons_append]

theorem splitLf_no_lf (l : Bytes) (h : ∀ x ∈ l, x ≠ 10) : splitLf l = [l] := by
  have := splitLf_append h (rest := []) rfl
  rwa [List.append_nil] at this

theorem splitLf_line (l rest : Bytes) (h : ∀ x ∈ l, x ≠ 10) :
    splitLf (l ++ 10 :: rest) = l :: splitLf rest := by
  obtain ⟨first, more, e⟩ := List.exists_cons_of_ne_nil (splitLf_ne_nil rest)
  rw [splitLf_append h ((splitLf_cons 10 e).trans (if_pos rfl)), List.append_nil, e]

theorem splitLf_lines (ls : List Bytes) (tail : Bytes) (h : ∀ l ∈ ls, ∀ x ∈ l, x ≠ 10) :
    splitLf (ls.flatMap (fun l => l ++ [10]) ++ tail) = ls ++ splitLf tail := by
  induction ls with
  | nil => rfl
  | cons l ls ih =>
    obtain ⟨hl, hls⟩ := List.forall_mem_cons.1 h
    rw [List.flatMap_cons, List.append_assoc, List.append_assoc, List.singleton_append,
      splitLf_line l _ hl, ih hls, List.cons_append]

/-- The writer (`Model.dashes`, `Model.beginPrefix`, `Model.endPrefix`) and the strict reader
    (`Spec.dashes`, …) each spell out the same literals, on purpose: the reader is written without
    looking at the writer.  The lemmas below speak of the reader's, the goals of `pemDecode_block`
    of the writer's; unification identifies them by evaluation.  Both namespaces are open here,
    so every occurrence is qualified. -/
theorem stripLine_wrap (pre label : Bytes) :
    stripLine pre (pre ++ label ++ Spec.dashes) = some label := by
  have hlen : (pre ++ label ++ Spec.dashes).length = pre.length + label.length + 5 := by
    rw [List.length_append, List.length_append]; rfl
  rw [stripLine, hlen, if_pos ⟨by rw [List.append_assoc, List.take_left], by omega,
    by rw [Nat.add_sub_cancel, ← List.length_append, List.drop_left]⟩,
    List.append_assoc, List.drop_left,
    show pre.length + label.length + 5 - pre.length - 5 = label.length by omega, List.take_left]

theorem wrap_no_lf (pre label : Bytes) (hp : ∀ x ∈ pre, x ≠ 10) (hl : ∀ x ∈ label, x ≠ 10) :
    ∀ x ∈ pre ++ label ++ Model.dashes, x ≠ 10 := fun x hx =>
  (List.mem_append.1 hx).elim (fun hx => (List.mem_append.1 hx).elim (hp x) (hl x))
    ((by decide : ∀ y ∈ Model.dashes, y ≠ 10) x)

/-- what the two readers ask of a label, for the five rcgen uses -/
theorem label_ok (k : PemKind) :
    k.label ≠ [] ∧ (∀ x ∈ k.label, x ≠ 10) ∧ (∀ x ∈ k.label, x ≠ 45) := by
  cases k <;> decide

theorem bodyShape_eq_shapeOk (l : List Bytes) : bodyShape l = shapeOk 64 l := by
  induction l with
  | nil => rfl
  | cons a l ih =>
    cases l with
    | nil => rfl
    | cons b l' => simp only [bodyShape, shapeOk, ih]

theorem pemDecode_block (label : Bytes) (lines : List Bytes) (hl : ∀ x ∈ label, x ≠ 10)
    (hlines : ∀ l ∈ lines, ∀ x ∈ l, x ≠ 10) (hshape : bodyShape lines = true) :
    pemDecode (Model.beginPrefix ++ label ++ Model.dashes ++ [10] ++
        lines.flatMap (fun l => l ++ [10]) ++ Model.endPrefix ++ label ++ Model.dashes ++ [10]) =
      (b64Decode lines.flatten).map fun d => (label, d) := by
  have h1 : stripLine Spec.beginPrefix (Model.beginPrefix ++ label ++ Model.dashes) = some label :=
    stripLine_wrap _ _
  have h2 : stripLine Spec.endPrefix (Model.endPrefix ++ label ++ Model.dashes) = some label :=
    stripLine_wrap _ _
  have h3 := wrap_no_lf Model.beginPrefix label (by decide) hl
  have h4 := wrap_no_lf Model.endPrefix label (by decide) hl
  have htext : Model.beginPrefix ++ label ++ Model.dashes ++ [10] ++
        lines.flatMap (fun l => l ++ [10]) ++ Model.endPrefix ++ label ++ Model.dashes ++ [10] =
      ((Model.beginPrefix ++ label ++ Model.dashes) :: lines).flatMap (fun l => l ++ [10]) ++
        ((Model.endPrefix ++ label ++ Model.dashes) ++ [10]) := by
    simp only [List.flatMap_cons, List.append_assoc]
  rw [htext, pemDecode, splitLf_lines _ _ (List.forall_mem_cons.2 ⟨h3, hlines⟩),
    splitLf_line _ [] h4]
  simp only [splitLf, List.reverse_append, List.reverse_cons, List.reverse_nil, List.nil_append,
    List.cons_append, List.reverse_reverse, h1, h2, true_and, hshape, if_true]

theorem pemDecode_pemEncode (label der : Bytes) (hl : ∀ x ∈ label, x ≠ 10) :
    pemDecode (pemEncode label der) = some (label, der) := by
  have hlines : ∀ l ∈ chunks 64 (b64Encode der), ∀ x ∈ l, x ≠ 10 := fun l hl x hx =>
    b64Encode_no_lf der x (mem_of_mem_chunks (by decide) hl hx)
  have hshape : bodyShape (chunks 64 (b64Encode der)) = true :=
    (bodyShape_eq_shapeOk _).trans (chunks_shape (by decide) _)
  rw [pemEncode, pemDecode_block label _ hl hlines hshape, chunks_flatten (by decide),
    b64Decode_b64Encode]
  rfl

end Rcgen.Model
