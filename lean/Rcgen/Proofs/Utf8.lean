import Rcgen.Spec.Der
import Rcgen.Proofs.Strings
/-
  The UTF-8 encoding of any text is well-formed UTF-8 in the sense of `Spec.utf8Valid` (no
  overlong forms, no surrogates, at most U+10FFFF): the invariant of Rust's `String`, which is
  the hypothesis the canonicity theorems take about UTF8String values.
-/
namespace Rcgen.Proofs.Utf8
open Rcgen.Model Rcgen.Spec

/-! `utf8Valid` on the four shapes of a well-formed sequence (Unicode 15, table 3-7) -/

theorem utf8Valid_one {a : UInt8} (rest : Bytes) (ha : a.toNat < 128) :
    utf8Valid (a :: rest) = utf8Valid rest := by
  conv => lhs; unfold utf8Valid
  simp [ha]

theorem utf8Valid_two {a b : UInt8} (rest : Bytes) (ha : 194 ≤ a.toNat ∧ a.toNat ≤ 223)
    (hb : 128 ≤ b.toNat ∧ b.toNat ≤ 191) : utf8Valid (a :: b :: rest) = utf8Valid rest := by
  have h1 : ¬ a.toNat < 128 := by omega
  conv => lhs; unfold utf8Valid
  simp [h1, ha, hb]

theorem utf8Valid_three {a b c : UInt8} (rest : Bytes) (ha : 224 ≤ a.toNat ∧ a.toNat ≤ 239)
    (hb : 128 ≤ b.toNat ∧ b.toNat ≤ 191) (hlo : a.toNat = 224 → 160 ≤ b.toNat)
    (hhi : a.toNat = 237 → b.toNat ≤ 159) (hc : 128 ≤ c.toNat ∧ c.toNat ≤ 191) :
    utf8Valid (a :: b :: c :: rest) = utf8Valid rest := by
  have h1 : ¬ a.toNat < 128 := by omega
  have h2 : ¬ (194 ≤ a.toNat ∧ a.toNat ≤ 223) := by omega
  have lo : (if (a.toNat == 224) = true then 160 else 128) ≤ b.toNat := by
    split
    · rename_i h; exact hlo (by simpa using h)
    · exact hb.1
  have hi : b.toNat ≤ (if (a.toNat == 237) = true then 159 else 191) := by
    split
    · rename_i h; exact hhi (by simpa using h)
    · exact hb.2
  conv => lhs; unfold utf8Valid
  simp only [h1, h2, ha, lo, hi, hc, and_self, if_true, if_false, decide_true, Bool.and_self, Bool.true_and]

theorem utf8Valid_four {a b c d : UInt8} (rest : Bytes) (ha : 240 ≤ a.toNat ∧ a.toNat ≤ 244)
    (hb : 128 ≤ b.toNat ∧ b.toNat ≤ 191) (hlo : a.toNat = 240 → 144 ≤ b.toNat)
    (hhi : a.toNat = 244 → b.toNat ≤ 143) (hc : 128 ≤ c.toNat ∧ c.toNat ≤ 191)
    (hd : 128 ≤ d.toNat ∧ d.toNat ≤ 191) :
    utf8Valid (a :: b :: c :: d :: rest) = utf8Valid rest := by
  have h1 : ¬ a.toNat < 128 := by omega
  have h2 : ¬ (194 ≤ a.toNat ∧ a.toNat ≤ 223) := by omega
  have h3 : ¬ (224 ≤ a.toNat ∧ a.toNat ≤ 239) := by omega
  have lo : (if (a.toNat == 240) = true then 144 else 128) ≤ b.toNat := by
    split
    · rename_i h; exact hlo (by simpa using h)
    · exact hb.1
  have hi : b.toNat ≤ (if (a.toNat == 244) = true then 143 else 191) := by
    split
    · rename_i h; exact hhi (by simpa using h)
    · exact hb.2
  conv => lhs; unfold utf8Valid
  simp only [h1, h2, h3, ha, lo, hi, hc, hd, and_self, if_true, if_false, decide_true, Bool.and_self,
    Bool.true_and]

theorem ascii_utf8Valid (b : Bytes) (h : ∀ x ∈ b, x.toNat < 128) : utf8Valid b = true := by
  induction b with
  | nil => rfl
  | cons a r ih =>
    rw [utf8Valid_one r (h a List.mem_cons_self)]
    exact ih fun x hx => h x (List.mem_cons_of_mem _ hx)

theorem continuation_range (x : Nat) :
    128 ≤ (UInt8.ofNat (x % 64 + 128)).toNat ∧ (UInt8.ofNat (x % 64 + 128)).toNat ≤ 191 := by
  rw [toNat_ofNat_lt (by omega)]; omega

theorem utf8Valid_encodeChar (c : Char) (rest : Bytes) :
    utf8Valid (String.utf8EncodeChar c ++ rest) = utf8Valid rest := by
  have hv := char_valid c
  rw [utf8EncodeChar_eq]
  generalize c.val.toNat = v at hv ⊢
  split
  · exact utf8Valid_one rest (by rw [toNat_ofNat_lt (by omega)]; omega)
  · split
    · exact utf8Valid_two rest (by rw [toNat_ofNat_lt (by omega)]; omega) (continuation_range v)
    · split
      · exact utf8Valid_three rest (by rw [toNat_ofNat_lt (by omega)]; omega) (continuation_range _)
          (by rw [toNat_ofNat_lt (by omega), toNat_ofNat_lt (by omega)]; omega)
          (by rw [toNat_ofNat_lt (by omega), toNat_ofNat_lt (by omega)]; omega) (continuation_range v)
      · exact utf8Valid_four rest (by rw [toNat_ofNat_lt (by omega)]; omega) (continuation_range _)
          (by rw [toNat_ofNat_lt (by omega), toNat_ofNat_lt (by omega)]; omega)
          (by rw [toNat_ofNat_lt (by omega), toNat_ofNat_lt (by omega)]; omega) (continuation_range _)
          (continuation_range v)

theorem utf8Valid_utf8 (s : List Char) : utf8Valid (utf8 s) = true := by
  induction s with
  | nil => rfl
  | cons c s ih =>
    simp only [utf8, List.flatMap_cons] at ih ⊢
    rw [utf8Valid_encodeChar, ih]

end Rcgen.Proofs.Utf8
