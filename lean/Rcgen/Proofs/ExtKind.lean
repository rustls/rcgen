import Rcgen.Spec.X509
import Rcgen.Spec.Props
import Rcgen.Proofs.Basic
/-
  The kind of a decoded extension value is determined by the extension identifier:
  `decodeExtValue` yields a value of one of its twelve kinds only under that kind's identifier
  (`decodeExtValue_kind`), and under the identifier of a subject-alternative-name / key-usage /
  extended-key-usage extension only a value of that kind.
-/
namespace Rcgen.Proofs.ExtKind
open Rcgen.Spec

/-- the identifier under which the typed reader yields a value of this kind (none for the bytes
    of an extension it does not interpret) -/
def kindOid : ExtValue → Option (List Nat)
  | .aki _ => some oidAki
  | .ski _ => some oidSki
  | .keyUsage _ => some oidKeyUsage
  | .eku _ => some oidEku
  | .basicConstraints _ _ => some oidBasicConstraints
  | .san _ => some oidSan
  | .nameConstraints _ _ => some oidNameConstraints
  | .crlDps _ => some oidCrlDps
  | .crlNumber _ => some oidCrlNumber
  | .idp _ _ _ => some oidIdp
  | .reason _ => some oidReason
  | .invalidityDate _ _ => some oidInvalidityDate
  | .opaque _ => none

theorem kind_of_map {α : Type} {o : Option α} {f : α → ExtValue} {val : ExtValue} {k : List Nat}
    (hf : ∀ a, kindOid (f a) = some k) (h : o.map f = some val) : kindOid val = some k := by
  obtain ⟨a, _, rfl⟩ := Option.map_eq_some_iff.1 h
  exact hf a

/-- the link of the reader for an extension that is a non-empty SEQUENCE OF (subject alternative
    names, extended key usages, CRL distribution points) -/
theorem seqOf_inv {α : Type} {f : Asn1 → Option α} {mk : List α → ExtValue} {t : Asn1}
    {val : ExtValue}
    (h : (match asSeq t with
      | some kids => if kids.isEmpty then none else (kids.mapM f).map mk
      | none => none) = some val) : ∃ xs, val = mk xs ∧ xs ≠ [] := by
  cases hs : asSeq t with
  | none => rw [hs] at h; cases h
  | some kids =>
    rw [hs] at h
    obtain ⟨hne, h⟩ := Option.ite_none_left_eq_some.1 h
    obtain ⟨xs, hx, rfl⟩ := Option.map_eq_some_iff.1 h
    exact ⟨xs, rfl, fun hn => hne (by rw [mapM_nil_of_some_nil f kids (hn ▸ hx)]; rfl)⟩

/-- The reader's twelve branches, walked once.  `split at h` on the whole chain runs `simp` over
    all of it at every link; `ite_cases` takes one link off by unification. -/
theorem decodeExtValue_opaque_or_kind {oid : List Nat} {v : Bytes} {val : ExtValue}
    (h : decodeExtValue oid v = some val) : kindOid val = none ∨ kindOid val = some oid := by
  unfold decodeExtValue at h
  cases hd : decodeAll v with
  | none => rw [hd] at h; cases (Option.ite_none_left_eq_some.1 h).2; exact .inl rfl
  | some t =>
    rw [hd] at h
    rcases ite_cases h with ⟨hc, h⟩ | ⟨-, h⟩
    · rw [eq_of_beq hc]; right
      split at h <;> first | (cases h; rfl) | cases h
    rcases ite_cases h with ⟨hc, h⟩ | ⟨-, h⟩
    · rw [eq_of_beq hc]; exact .inr (kind_of_map (fun _ => rfl) h)
    rcases ite_cases h with ⟨hc, h⟩ | ⟨-, h⟩
    · rw [eq_of_beq hc]; exact .inr (kind_of_map (fun _ => rfl) h)
    rcases ite_cases h with ⟨hc, h⟩ | ⟨-, h⟩
    · obtain ⟨_, rfl, -⟩ := seqOf_inv h
      rw [eq_of_beq hc]; exact .inr rfl
    rcases ite_cases h with ⟨hc, h⟩ | ⟨-, h⟩
    · rw [eq_of_beq hc]; right
      split at h <;> first | (cases h; rfl) | cases h | exact kind_of_map (fun _ => rfl) h
    rcases ite_cases h with ⟨hc, h⟩ | ⟨-, h⟩
    · obtain ⟨_, rfl, -⟩ := seqOf_inv h
      rw [eq_of_beq hc]; exact .inr rfl
    rcases ite_cases h with ⟨hc, h⟩ | ⟨-, h⟩
    · rw [eq_of_beq hc]; right
      split at h
      · split at h
        · cases h
        · exact kind_of_map (fun _ => rfl) h
      · split at h
        · cases h
        · exact kind_of_map (fun _ => rfl) h
      · split at h
        · cases h
        · split at h
          · cases h; rfl
          · cases h
      · cases h
    rcases ite_cases h with ⟨hc, h⟩ | ⟨-, h⟩
    · obtain ⟨_, rfl, -⟩ := seqOf_inv h
      rw [eq_of_beq hc]; exact .inr rfl
    rcases ite_cases h with ⟨hc, h⟩ | ⟨-, h⟩
    · rw [eq_of_beq hc]; exact .inr (kind_of_map (fun _ => rfl) h)
    rcases ite_cases h with ⟨hc, h⟩ | ⟨-, h⟩
    · rw [eq_of_beq hc]; right
      split at h <;> first | cases h | exact kind_of_map (fun _ => rfl) h
    rcases ite_cases h with ⟨hc, h⟩ | ⟨-, h⟩
    · rw [eq_of_beq hc]; exact .inr (kind_of_map (fun _ => rfl) h)
    rcases ite_cases h with ⟨hc, h⟩ | ⟨-, h⟩
    · rw [eq_of_beq hc]; exact .inr (kind_of_map (fun _ => rfl) h)
    cases h; exact .inl rfl

theorem decodeExtValue_kind {oid k : List Nat} {v : Bytes} {val : ExtValue}
    (h : decodeExtValue oid v = some val) (hk : kindOid val = some k) : oid = k := by
  rcases decodeExtValue_opaque_or_kind h with hn | hs
  · cases hk.symm.trans hn
  · exact Option.some.inj (hs.symm.trans hk)

/-! Under a fixed identifier the reader is one link of its chain: the comparisons before that
    link evaluate, so `h` is accepted at the link's type as it stands. -/

theorem decodeExtValue_at_san (v : Bytes) (val : ExtValue)
    (h : decodeExtValue oidSan v = some val) : ∃ names, val = .san names := by
  unfold decodeExtValue at h
  cases hd : decodeAll v with
  | none => rw [hd] at h; exact absurd (Option.ite_none_left_eq_some.1 h).1 (by decide)
  | some t =>
    rw [hd] at h
    obtain ⟨names, rfl, -⟩ := seqOf_inv (f := decodeGName) (mk := .san) h
    exact ⟨names, rfl⟩

theorem decodeExtValue_at_keyUsage (v : Bytes) (val : ExtValue)
    (h : decodeExtValue oidKeyUsage v = some val) : ∃ bits, val = .keyUsage bits := by
  unfold decodeExtValue at h
  cases hd : decodeAll v with
  | none => rw [hd] at h; exact absurd (Option.ite_none_left_eq_some.1 h).1 (by decide)
  | some t =>
    rw [hd] at h
    obtain ⟨a, -, rfl⟩ := (Option.map_eq_some_iff (x := asBitString t)).1 h
    exact ⟨_, rfl⟩

theorem decodeExtValue_at_eku (v : Bytes) (val : ExtValue)
    (h : decodeExtValue oidEku v = some val) : ∃ oids, val = .eku oids ∧ oids ≠ [] := by
  unfold decodeExtValue at h
  cases hd : decodeAll v with
  | none => rw [hd] at h; exact absurd (Option.ite_none_left_eq_some.1 h).1 (by decide)
  | some t => rw [hd] at h; exact seqOf_inv (f := asOid) (mk := .eku) h

theorem decodeExt_inv {t : Asn1} {e : Ext} (h : decodeExt t = some e) :
    ∃ o v, (t = .cons 0 16 [o, .prim 0 4 v] ∨ ∃ b, t = .cons 0 16 [o, .prim 0 1 [b], .prim 0 4 v]) ∧
      decodeExtValue e.oid v = some e.value := by
  unfold decodeExt at h
  split at h
  · rename_i o v
    split at h
    · obtain ⟨x, hx, rfl⟩ := Option.map_eq_some_iff.1 h
      exact ⟨o, v, .inl rfl, hx⟩
    · cases h
  · rename_i o b v
    split at h
    · obtain ⟨x, hx, rfl⟩ := Option.map_eq_some_iff.1 h
      exact ⟨o, v, .inr ⟨b, rfl⟩, hx⟩
    · cases h
  · cases h

theorem decodeExt_value (t : Asn1) (e : Ext) (h : decodeExt t = some e) :
    ∃ v, decodeExtValue e.oid v = some e.value :=
  let ⟨_, v, _, hv⟩ := decodeExt_inv h
  ⟨v, hv⟩

end Rcgen.Proofs.ExtKind
