import Rcgen.Model.Spki
import Rcgen.Proofs.CertDecode
/-
  What `SubjectPublicKeyInfo::from_der` makes of a SubjectPublicKeyInfo rcgen itself wrote: the two
  steps of `spkiFromDer` on `spkiDer k` (`spkiParts_spkiDer`, `lookup_own`); put together in
  `Theorems.C11.spki_import_of_export`.
-/
namespace Rcgen.Proofs.Spki
open Rcgen.Model Rcgen.Proofs.CertDecode

theorem spkiParts_spkiDer (k : PubKey) (hl : (encode (spkiNode k)).length < 256 ^ 126) :
    spkiParts (spkiDer k) = some (encode (spkiAlgIdent k.alg), k.raw) := by
  unfold spkiParts spkiDer
  rw [decodeAll_encode_of_tagsOk _ (tagsOk_spki k) hl]
  simp [spkiNode, asn1]

/-- the lookup by identifier, for every algorithm of a build: an algorithm with the same key
    identifiers and parameters, hence the *same* AlgorithmIdentifier node — the same constant
    unless the key is an RSA key, where the identifier does not say which hash -/
theorem lookup_table :
    [Backend.ring, Backend.aws].all (fun b => (publicAlgs b).all (fun a =>
      match spkiAlgLookup b (encode (spkiAlgIdent a)) with
      | some a' => a'.keyOids == a.keyOids && a'.params == a.params && (a.keyType == .rsa || a' == a)
      | none => false)) = true := by decide +kernel

theorem lookup_own (b : Backend) (a : SigAlg) (ha : a ∈ publicAlgs b) :
    ∃ a', spkiAlgLookup b (encode (spkiAlgIdent a)) = some a' ∧ spkiAlgIdent a' = spkiAlgIdent a ∧
      (a.keyType ≠ .rsa → a' = a) := by
  have row := List.all_eq_true.1 (List.all_eq_true.1 lookup_table b (by cases b <;> simp)) a ha
  cases hl : spkiAlgLookup b (encode (spkiAlgIdent a)) with
  | none => rw [hl] at row; cases row
  | some a' =>
    simp only [hl, Bool.and_eq_true, beq_iff_eq, Bool.or_eq_true] at row
    obtain ⟨⟨hk, hp⟩, hr⟩ := row
    -- the identifier node is built from the key identifiers and the parameters
    exact ⟨a', rfl, by unfold spkiAlgIdent SigAlg.paramNodes; rw [hk, hp], hr.resolve_left⟩

end Rcgen.Proofs.Spki
