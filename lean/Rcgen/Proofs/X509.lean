import Rcgen.Proofs.Basic
import Rcgen.Proofs.Leaf
import Rcgen.Proofs.WF
import Rcgen.Spec.Props
import Rcgen.Model.Cert
/-
  Typed decode of what the model's writers produce: for each writer of Model/Name.lean and
  Model/Cert.lean, the RFC 5280 reader of Spec/X509.lean returns the content the parameters
  ask for (`Spec.req…`).
-/
namespace Rcgen.Proofs.X509
open Rcgen.Model Rcgen.Spec Rcgen.Proofs.Leaf

/-- one clause; with `List.append_eq_nil_iff` a clause list `clause n₁ b₁ ++ clause n₂ b₂ ++ …`
    is empty iff every `bᵢ` holds -/
theorem clause_eq_nil (n : String) (b : Bool) : clause n b = [] ↔ b = true := by
  cases b <;> simp [clause]

theorem rfcAttrOid_eq (t : DnType) : rfcAttrOid t = t.oid := by cases t <;> rfl

theorem decodeAttrTV_node (e : DnType × DnValue) (h : oidOk e.1.oid = true) :
    decodeAttrTV (.seq [.oid e.1.oid, e.2.node]) = some (reqAttr e) := by
  obtain ⟨t, v⟩ := e
  cases v <;> simp [asn1, DnValue.node, decodeAttrTV, h, isDirectoryStringTag, reqAttr, rfcAttrOid_eq]

theorem decodeRdn_rdnNode (e : DnType × DnValue) (h : oidOk e.1.oid = true) :
    decodeRdn (rdnNode e) = some [reqAttr e] := by
  simp [rdnNode, Asn1.set, decodeRdn, List.mapM_cons, decodeAttrTV_node e h]

theorem decodeName_write (dn : DistinguishedName)
    (h : ∀ e ∈ dn.iter, oidOk e.1.oid = true) :
    decodeName (writeDistinguishedName dn) = some (reqName dn.iter) := by
  simp only [writeDistinguishedName, Asn1.seq, decodeName, reqName]
  exact mapM_map_some _ _ _ _ (fun e he => decodeRdn_rdnNode e (h e he))

/-- the validation gives the same for a name it has checked: `oids_of_checkName` -/
theorem dn_oids_ok (dn : DistinguishedName) (h : dnPanics dn = false) :
    ∀ e ∈ dn.iter, oidOk e.1.oid = true := by
  intro e he
  unfold dnPanics at h
  have := List.any_eq_false.1 h e he
  simp only [Bool.or_eq_true, Bool.not_eq_true', not_or, Bool.not_eq_false] at this
  exact this.1

theorem decodeGName_sanNode (s : SanType) (h : sanPanics s = false) :
    decodeGName (sanNode s) = some (reqSan s) := by
  cases s <;> simp only [sanPanics, isAscii, Bool.not_eq_false'] at h <;>
    simp [asn1, sanNode, decodeGName, reqSan, h]

theorem decodeSubtree_node (t : GeneralSubtree) (h : subtreePanics t = false) :
    decodeSubtree (subtreeNode t) = some (reqSubtree enumOf t) := by
  cases t with
  | directoryName dn =>
    have hd := decodeName_write dn (dn_oids_ok dn (by simpa [subtreePanics] using h))
    simp [asn1, subtreeNode, decodeSubtree, decodeGName, reqSubtree, hd, enumOf]
  | ip c => cases c <;> simp [asn1, subtreeNode, decodeSubtree, decodeGName, reqSubtree, CidrSubnet.bytes]
  | _ =>
    simp only [subtreePanics, isAscii, Bool.not_eq_false'] at h
    simp [asn1, subtreeNode, decodeSubtree, decodeGName, reqSubtree, h]

theorem value_wf (oid : List Nat) (crit : Bool) (v : Asn1) (h : (extOf oid crit v).WF)
    (ht : tagsOk v = true) : v.WF :=
  -- the value's encoding is the content of the extnValue OCTET STRING, so it is as short
  wf_of_tagsOk v ht (Asn1.WF.kid (t := .octets (encode v)) h (by simp)).2.2

theorem decodeExt_extNode (oid : List Nat) (crit : Bool) (content : Bytes) (x : ExtValue)
    (hoid : oidOk oid = true) (hx : decodeExtValue oid content = some x) :
    decodeExt (extNode oid crit content) = some ⟨oid, crit, x⟩ := by
  cases crit <;> simp [asn1, extNode, decodeExt, hoid, hx]

theorem aki_value (k : Bytes) (hw : (Asn1.seq [.implicit 0 (.octets k)]).WF) :
    decodeExtValue [2, 5, 29, 35] (encode (Asn1.seq [.implicit 0 (.octets k)])) =
      some (.aki (some k)) := by
  rw [decodeExtValue, decodeAll_encode _ hw]
  rfl

theorem ski_value (k : Bytes) (hw : (Asn1.octets k).WF) :
    decodeExtValue [2, 5, 29, 14] (encode (Asn1.octets k)) = some (.ski k) := by
  rw [decodeExtValue, decodeAll_encode _ hw]
  rfl

theorem rfcEkuOid_eq (e : Eku) : rfcEkuOid e = e.oid := by cases e <;> rfl

theorem eku_value (ekus : List Eku) (hne : ekus ≠ []) (hok : ∀ e ∈ ekus, oidOk e.oid = true)
    (hw : (Asn1.seq (ekus.map (fun e => Asn1.oid e.oid))).WF) :
    decodeExtValue [2, 5, 29, 37] (encode (Asn1.seq (ekus.map (fun e => Asn1.oid e.oid)))) =
      some (.eku (ekus.map rfcEkuOid)) := by
  unfold decodeExtValue
  rw [decodeAll_encode _ hw]
  have hm : (ekus.map (fun e => Asn1.prim 0 6 (oidContent e.oid))).mapM asOid =
      some (ekus.map rfcEkuOid) :=
    mapM_map_some _ _ _ _ (fun e he => by rw [rfcEkuOid_eq]; exact asOid_oidContent _ (hok e he))
  simp [-List.mapM_map, asn1, hne, hm]

theorem san_value (sans : List SanType) (hne : sans ≠ []) (hok : ∀ s ∈ sans, sanPanics s = false)
    (hw : (Asn1.seq (sans.map sanNode)).WF) :
    decodeExtValue [2, 5, 29, 17] (encode (Asn1.seq (sans.map sanNode))) =
      some (.san (sans.map reqSan)) := by
  unfold decodeExtValue
  rw [decodeAll_encode _ hw]
  have hm : (sans.map sanNode).mapM decodeGName = some (sans.map reqSan) :=
    mapM_map_some _ _ _ _ (fun s hs => decodeGName_sanNode s (hok s hs))
  simp [-List.mapM_map, asn1, hne, hm]

/- `(generalizing := false)`: a `match` on `pl` elaborated with `hw` in scope is otherwise
   abstracted over `hw` as well (`match pl, hw with`) and is then not the term `caExts` writes. -/
theorem bc_value_ca (pl : Option Nat)
    (hw : (Asn1.seq (.bool true :: (match pl with | some n => [Asn1.intOfNat n] | none => []))).WF) :
    decodeExtValue [2, 5, 29, 19]
      (encode (Asn1.seq (.bool true ::
        (match (generalizing := false) pl with | some n => [Asn1.intOfNat n] | none => [])))) =
      some (.basicConstraints true pl) := by
  cases pl with
  | none => rw [decodeExtValue, decodeAll_encode _ hw]; rfl
  | some n =>
    rw [decodeExtValue, decodeAll_encode _ hw]
    exact congrArg (Option.map _) (asNat_intOfNat n)

theorem bc_value_noca (hw : (Asn1.seq []).WF) :
    decodeExtValue [2, 5, 29, 19] (encode (Asn1.seq [])) = some (.basicConstraints false none) := by
  rw [decodeExtValue, decodeAll_encode _ hw]
  rfl

/-- the value `nameConstraintsExt` writes: an inline subterm there, named so that lemmas can be
    stated about it -/
def ncValue (nc : NameConstraints) : Asn1 :=
  .seq ((if nc.permitted.isEmpty then [] else [subtreesNode 0 nc.permitted]) ++
        (if nc.excluded.isEmpty then [] else [subtreesNode 1 nc.excluded]))

theorem nc_value (nc : NameConstraints) (hne : nc.isEmpty = false)
    (hp : ∀ t ∈ nc.permitted, subtreePanics t = false)
    (he : ∀ t ∈ nc.excluded, subtreePanics t = false) (hw : (ncValue nc).WF) :
    decodeExtValue [2, 5, 29, 30] (encode (ncValue nc)) =
      some (.nameConstraints (nc.permitted.map (reqSubtree enumOf))
        (nc.excluded.map (reqSubtree enumOf))) := by
  unfold decodeExtValue
  rw [decodeAll_encode _ hw]
  have mp := mapM_map_some nc.permitted subtreeNode decodeSubtree (reqSubtree enumOf)
    fun t ht => decodeSubtree_node t (hp t ht)
  have me := mapM_map_some nc.excluded subtreeNode decodeSubtree (reqSubtree enumOf)
    fun t ht => decodeSubtree_node t (he t ht)
  simp only [NameConstraints.isEmpty, Bool.and_eq_false_iff, List.isEmpty_eq_false_iff] at hne
  by_cases hpe : nc.permitted = []
  · have hee : nc.excluded ≠ [] := by
      rcases hne with h | h
      · exact absurd hpe h
      · exact h
    simp [-List.mapM_map, ncValue, subtreesNode, asn1, hpe, hee, me]
  · by_cases hee : nc.excluded = []
    · simp [-List.mapM_map, ncValue, subtreesNode, asn1, hpe, hee, mp]
    · simp [-List.mapM_map, ncValue, subtreesNode, asn1, hpe, hee, mp, me]

theorem decodeDpName_uris (uris : List Bytes) (hok : ∀ u ∈ uris, isAscii u = true) :
    decodeDpName (dpNameUris uris) = some (uris.map GName.uri) := by
  have hm : (uris.map (fun u => Asn1.prim 2 6 u)).mapM decodeGName = some (uris.map GName.uri) :=
    mapM_map_some _ _ _ _ (fun u hu => by simpa [decodeGName, isAscii] using hok u hu)
  simp [-List.mapM_map, dpNameUris, asn1, decodeDpName, hm]

/-- likewise the value `crlDpsExt` writes -/
def crlDpsValue (dps : List CrlDistributionPoint) : Asn1 :=
  .seq (dps.map (fun dp => Asn1.seq [dpNameUris dp.uris]))

theorem crlDps_value (dps : List CrlDistributionPoint) (hne : dps ≠ [])
    (hok : ∀ dp ∈ dps, ∀ u ∈ dp.uris, isAscii u = true) (hw : (crlDpsValue dps).WF) :
    decodeExtValue [2, 5, 29, 31] (encode (crlDpsValue dps)) =
      some (.crlDps (dps.map (fun dp => dp.uris.map GName.uri))) := by
  unfold decodeExtValue
  rw [decodeAll_encode _ hw]
  have hm : (dps.map (fun dp => Asn1.seq [dpNameUris dp.uris])).mapM decodeDp =
      some (dps.map (fun dp => dp.uris.map GName.uri)) :=
    mapM_map_some _ _ _ _ (fun dp hdp => by
      simp [Asn1.seq, decodeDp, decodeDpName_uris dp.uris (hok dp hdp)])
  simp only [Asn1.seq] at hm
  simp [-List.mapM_map, crlDpsValue, asn1, hne, hm]

/-- the extension identifiers whose values the RFC 5280 reader interprets -/
def knownOids : List (List Nat) :=
  [[2,5,29,35], [2,5,29,14], [2,5,29,15], [2,5,29,37], [2,5,29,19], [2,5,29,17], [2,5,29,30],
   [2,5,29,31], [2,5,29,20], [2,5,29,28], [2,5,29,21], [2,5,29,24]]

theorem knownExtOid_iff (oid : List Nat) : knownExtOid oid = true ↔ oid ∈ knownOids := by
  constructor
  · intro h
    simp only [knownExtOid, Bool.and_eq_true, beq_iff_eq] at h
    obtain ⟨⟨ht, hl⟩, hcn⟩ := h
    match oid, ht, hl, hcn with
    | [a, b, c, d], ht, _, hcn =>
      simp only [List.take_succ_cons, List.take_zero, List.cons.injEq, and_true] at ht
      obtain ⟨rfl, rfl, rfl⟩ := ht
      simp only [List.getD_cons_succ, List.getD_cons_zero, List.contains_cons, List.contains_nil,
        Bool.or_false, Bool.or_eq_true, beq_iff_eq] at hcn
      simp only [knownOids, List.mem_cons, List.cons.injEq, true_and, and_true, List.not_mem_nil,
        or_false]
      exact hcn
  · intro h
    simp only [knownOids, List.mem_cons, List.not_mem_nil, or_false] at h
    rcases h with h | h | h | h | h | h | h | h | h | h | h | h <;> subst h <;> rfl

theorem custom_value (oid : List Nat) (content : Bytes) (h : oid ∉ knownOids) :
    decodeExtValue oid content = some (.opaque content) := by
  have hk : ¬ knownExtOid oid = true := fun hk => h ((knownExtOid_iff oid).1 hk)
  simp only [knownOids, List.mem_cons, List.not_mem_nil, or_false, not_or] at h
  obtain ⟨h1, h2, h3, h4, h5, h6, h7, h8, h9, h10, h11, h12⟩ := h
  unfold decodeExtValue
  cases decodeAll content with
  -- `↓reduceIte` decides each test before it looks at the branch; `if_false` would have `simp` walk
  -- every reader first
  | some t => simp only [beq_iff_eq, h1, h2, h3, h4, h5, h6, h7, h8, h9, h10, h11, h12, ↓reduceIte]
  | none =>
    refine if_neg (fun hc => hk ?_)
    simp only [knownExtOid, Bool.and_eq_true]
    exact ⟨⟨hc.1, hc.2.1⟩, hc.2.2⟩

end Rcgen.Proofs.X509
