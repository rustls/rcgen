import Rcgen.Proofs.CertDecode
import Rcgen.Spec.Validate
/-
  C12: the RFC 5280 §6.1 validator of Spec/Validate.lean, run on the content decoded from
  certificates the model generates, returns the verdict the parameters imply: `validate_model`
  for any linked list of inputs, `chain_verdict` for a generated chain (`expectedVerdict_pair`
  spells the verdict out for two certificates); `validate_pair` is the validator alone on two
  arbitrary records, for chains through an imported CA.
-/
namespace Rcgen.Proofs.Validate
open Rcgen.Model Rcgen.Spec Rcgen.Proofs.X509 Rcgen.Proofs.CertDecode

/-- the test that `Spec.findExt` and `Model.findExts` write as a lambda: named so that what the
    validator finds (`findExt_model`) and what the import finds (`ImportDecode.uniqueExt_model`) is
    the same term `(modelExts i).find? (hasOid o)`, which the `find_…` lemmas below rewrite -/
def hasOid (o : List Nat) (e : Ext) : Bool := e.oid == o

theorem findExt_model (i : CertInputs) (o : List Nat) :
    findExt (modelTbs i) o = ((modelExts i).find? (hasOid o)).map (·.value) := rfl

theorem find_modelExts (i : CertInputs) (hc : ∀ e ∈ i.p.customExts, e.oid ∉ knownOids)
    (o : List Nat) (ho : o ∈ knownOids) :
    (modelExts i).find? (hasOid o) = (((ownTable i).lookup o).getD []).head? := by
  rw [← filter_modelExts i hc o ho]; exact List.head?_filter.symm

section found
variable (i : CertInputs) (hc : ∀ e ∈ i.p.customExts, e.oid ∉ knownOids)
include hc

theorem find_bc : (modelExts i).find? (hasOid [2, 5, 29, 19]) = (bcRow i.p.isCa).head? :=
  find_modelExts i hc _ (by decide)

theorem find_ku : (modelExts i).find? (hasOid [2, 5, 29, 15]) = (kuRow i.p.keyUsages).head? :=
  find_modelExts i hc _ (by decide)

theorem find_eku : (modelExts i).find? (hasOid [2, 5, 29, 37]) = (ekuRow i.p.ekus).head? :=
  find_modelExts i hc _ (by decide)

theorem find_san : (modelExts i).find? (hasOid [2, 5, 29, 17]) = (sanRow i.p).head? :=
  find_modelExts i hc _ (by decide)

theorem find_nc : (modelExts i).find? (hasOid [2, 5, 29, 30]) = (ncRow i.p.nameConstraints).head? :=
  find_modelExts i hc _ (by decide)

end found

section views
variable (i : CertInputs) (hc : ∀ e ∈ i.p.customExts, e.oid ∉ knownOids)
include hc

theorem isCa_model : isCaCert (modelTbs i) = pIsCa i.p := by
  unfold isCaCert pIsCa
  rw [findExt_model, find_bc i hc]
  cases i.p.isCa <;> rfl

theorem pathLen_model : pathLen (modelTbs i) = pPathLen i.p := by
  unfold pathLen pPathLen
  rw [findExt_model, find_bc i hc]
  cases i.p.isCa <;> rfl

theorem mayCertSign_model : mayCertSign (modelTbs i) = pMayCertSign i.p := by
  unfold mayCertSign pMayCertSign
  rw [findExt_model, find_ku i hc, kuRow]
  cases i.p.keyUsages.isEmpty with
  | true => simp
  | false =>
    simp only [Bool.false_eq_true, if_false, Bool.false_or, List.head?_cons, Option.map_some]
    exact KeyUsage.reqKeyUsageBits_contains i.p.keyUsages .keyCertSign

theorem ekuAllows_model (u : Purpose) : ekuAllows (modelTbs i) u = pEkuAllows i.p u := by
  unfold ekuAllows pEkuAllows
  rw [findExt_model, find_eku i hc, ekuRow]
  cases i.p.ekus.isEmpty with
  | true => simp
  | false =>
    simp only [Bool.false_eq_true, if_false, Bool.false_or, List.head?_cons, Option.map_some]
    rw [Bool.eq_iff_iff]
    simp only [List.contains_eq_mem, List.mem_map, decide_eq_true_eq, List.any_eq_true, beq_iff_eq]

theorem leafNames_model : leafNames (modelTbs i) = i.p.sans.map reqSan := by
  unfold leafNames
  rw [findExt_model, find_san i hc, sanRow]
  cases hk : i.p.sans.isEmpty with
  | true =>
    have : i.p.sans = [] := by simpa using hk
    simp [this]
  | false => simp

end views

theorem timeValid_model (i : CertInputs) (t : Int) : timeValid (modelTbs i) t = pTimeValid i.p t := rfl

theorem ncAllows_model (ca leaf : CertInputs)
    (hca : ∀ e ∈ ca.p.customExts, e.oid ∉ knownOids)
    (hl : ∀ e ∈ leaf.p.customExts, e.oid ∉ knownOids) :
    ncAllowsLeaf (modelTbs ca) (modelTbs leaf) = pNcAllowsLeaf ca.p leaf.p := by
  unfold ncAllowsLeaf pNcAllowsLeaf
  rw [findExt_model, find_nc ca hca, leafNames_model leaf hl]
  cases ca.p.nameConstraints with
  | none => rfl
  | some nc =>
    simp only [ncRow, NameConstraints.isEmpty]
    by_cases hb : (nc.permitted.isEmpty && nc.excluded.isEmpty) = true
    · simp only [hb, if_true, List.head?_nil, Option.map_none]
    · simp only [hb]
      -- the validator reads the leaf's names through `reqSan`
      exact List.all_map

structure Link where
  p : CertParams
  key : PubKey

/-- the issuer view of a link (what `Issuer::new` / `from_ca_cert` hand to `signed_by`); on
    `⟨p, k⟩` it is `C03.issuerView p k` and `Model.selfIssuer p k`, field for field -/
def issuerOf (l : Link) : Issuer := ⟨l.p.dn, l.p.keyIdMethod, l.p.keyUsages, l.key⟩

/-- the generation inputs of the links below `prev`, each issued by the one before it -/
def chainFrom (H : Hashes) : Link → List Link → List CertInputs
  | _, [] => []
  | prev, l :: ls => ⟨H, l.p, l.key, issuerOf prev⟩ :: chainFrom H l ls

/-- anchor first (self-issued), leaf last -/
def chainOf (H : Hashes) : List Link → List CertInputs
  | [] => []
  | a :: rest => ⟨H, a.p, a.key, issuerOf a⟩ :: chainFrom H a rest

theorem chainFrom_params (H : Hashes) : ∀ (prev : Link) (ls : List Link),
    (chainFrom H prev ls).map (·.p) = ls.map (·.p)
  | _, [] => rfl
  | _, l :: ls => by simp [chainFrom, chainFrom_params H l ls]

theorem chainOf_params (H : Hashes) (ls : List Link) : (chainOf H ls).map (·.p) = ls.map (·.p) := by
  cases ls with
  | nil => rfl
  | cons a r => simp [chainOf, chainFrom_params]

/-- each record names the one before it as its issuer -/
def Linked : List TbsCert → Prop
  | a :: b :: rest => b.issuer = a.subject ∧ Linked (b :: rest)
  | _ => True

/-- the validator's name-chaining conjunct, on a chain written CAs ++ [leaf] -/
theorem linked_zip (cas : List TbsCert) (leaf : TbsCert) (h : Linked (cas ++ [leaf])) :
    (List.zip cas (cas.drop 1 ++ [leaf])).all (fun (i, s) => s.issuer == i.subject) = true := by
  induction cas with
  | nil => rfl
  | cons a r ih =>
    cases r with
    | nil => simpa [Linked] using h.1
    | cons b r => simpa [Linked, h.1] using ih h.2

/-- `issuerOf` hands each certificate the name of the one before (C03's `issuer_name_bytes`, on
    decoded content) -/
theorem linked_chainFrom (H : Hashes) : ∀ (prev : Link) (ls : List Link) (c : TbsCert),
    c.subject = reqName prev.p.dn.iter → Linked (c :: (chainFrom H prev ls).map modelTbs)
  | _, [], _, _ => trivial
  | _, l :: ls, _, h => ⟨h.symm ▸ rfl, linked_chainFrom H l ls _ rfl⟩

theorem linked_chainOf (H : Hashes) (ls : List Link) : Linked ((chainOf H ls).map modelTbs) := by
  cases ls with
  | nil => trivial
  | cons a rest => exact linked_chainFrom H a rest _ rfl

/-- for any list of generation inputs whose records chain by name, of any length: below two
    certificates both sides refuse -/
theorem validate_model (ac kc : Bool) (l : List CertInputs) (t : Int) (u : Purpose)
    (hc : ∀ p ∈ l.map (·.p), ∀ e ∈ p.customExts, e.oid ∉ knownOids)
    (hl : Linked (l.map modelTbs)) :
    validate ac kc (l.map modelTbs) t u = expectedVerdict ac kc (l.map (·.p)) t u := by
  unfold validate expectedVerdict
  rw [← List.map_reverse, ← List.map_reverse]
  cases hr : l.reverse with
  | nil => rfl
  | cons leaf casRev =>
    cases casRev with
    | nil => rfl
    | cons c r =>
      have hl' : l = (c :: r).reverse ++ [leaf] := by
        rw [← List.reverse_cons, ← hr, List.reverse_reverse]
      -- let both matches reduce, then fold the maps back: the CAs are `(c :: r).reverse`
      simp only [List.map_cons]
      rw [← List.map_cons, ← List.map_cons, ← List.map_reverse, ← List.map_reverse]
      generalize (c :: r).reverse = cas at hl'
      subst hl'
      have hcl := hc leaf.p (by simp)
      rw [List.map_append, List.map_singleton] at hl
      rw [linked_zip _ _ hl, Bool.true_and, timeValid_model, ekuAllows_model leaf hcl]
      congr 1
      simp only [List.length_map, List.zip_map_left, List.all_map]
      apply all_congr'
      rintro ⟨ci, idx⟩ hmem
      have hcc := hc ci.p (List.mem_map_of_mem (List.mem_append_left _ (List.of_mem_zip hmem).1))
      simp only [Function.comp, Prod.map, id, isCa_model ci hcc, mayCertSign_model ci hcc,
        timeValid_model, pathLen_model ci hcc, ncAllows_model ci leaf hcc hcl]

theorem chain_verdict (H : Hashes) (ac kc : Bool) (ls : List Link) (t : Int) (u : Purpose)
    (hc : ∀ p ∈ ls.map (·.p), ∀ e ∈ p.customExts, e.oid ∉ knownOids) :
    validate ac kc ((chainOf H ls).map modelTbs) t u = expectedVerdict ac kc (ls.map (·.p)) t u := by
  rw [← chainOf_params H] at hc ⊢
  exact validate_model ac kc _ t u hc (linked_chainOf H _)

/-- no intermediate: a path-length limit on the anchor cannot bite -/
theorem validate_pair (ac kc : Bool) (ca leaf : TbsCert) (t : Int) (u : Purpose) :
    validate ac kc [ca, leaf] t u =
      (leaf.issuer == ca.subject && timeValid leaf t && ekuAllows leaf u &&
       ((!ac || (isCaCert ca && (!kc || mayCertSign ca) && timeValid ca t)) && ncAllowsLeaf ca leaf)) := by
  cases h : pathLen ca <;> simp [validate, List.range, List.range.loop, h]

theorem expectedVerdict_pair (ac kc : Bool) (ca ee : CertParams) (t : Int) (u : Purpose) :
    expectedVerdict ac kc [ca, ee] t u =
      (pTimeValid ee t && pEkuAllows ee u &&
       ((!ac || (pIsCa ca && (!kc || pMayCertSign ca) && pTimeValid ca t)) && pNcAllowsLeaf ca ee)) := by
  cases h : pPathLen ca <;> simp [expectedVerdict, List.range, List.range.loop, h]

/-- a chain element that generation accepts -/
def Good (ci : CertInputs) : Prop :=
  certInvalid ci.p ci.issuer = none ∧ certPanics ci.p ci.issuer = false ∧
  (∀ e ∈ ci.p.customExts, e.oid ∉ knownOids) ∧
  (encode (tbsCertificate ci.H ci.p ci.subject ci.issuer)).length < 256 ^ 126

theorem Good.decodes {ci : CertInputs} (h : Good ci) :
    decodeTbsCert (encode (tbsCertificate ci.H ci.p ci.subject ci.issuer)) = some (modelTbs ci) :=
  tbs_decodes ci h.1 h.2.1 h.2.2.1 h.2.2.2

end Rcgen.Proofs.Validate
