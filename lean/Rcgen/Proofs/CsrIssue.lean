import Rcgen.Proofs.ImportFields
import Rcgen.Theorems.C03
import Rcgen.Proofs.KeyUsage
import Rcgen.Proofs.CertDecode
import Rcgen.Proofs.CsrAccept
/-
  C06, issuance: a certificate issued from an *accepted* request — any byte string the parser
  accepts, not only rcgen's own — carries the request's subject, alternative names, key usages
  and extended key usages, and the request asks for nothing else.  Stated on the executable
  clause list `Spec.c06IssueClauses`, which reads only the two artefacts.
-/
namespace Rcgen.Proofs.CsrIssue
open Rcgen.Model Rcgen.Spec Rcgen.Proofs.X509 Rcgen.Proofs.CertDecode Rcgen.Proofs.CsrAccept

theorem decodeExtensionRequestAll_of_single_value (values : Bytes) (dec : List Ext)
    (h : decodeExtensionRequest values = some dec) : decodeExtensionRequestAll values = some dec := by
  obtain ⟨nodes, hn, hm⟩ := decodeExtensionRequest_inv h
  unfold decodeExtensionRequestAll
  rw [hn]
  simp [hm]

/-- parameters the request parser returns: only SAN, key usage and EKU can be written -/
structure Bare (p : CertParams) : Prop where
  aki : p.useAki = false
  nc : p.nameConstraints = none
  crlDps : p.crlDps = []
  isCa : p.isCa = .noCa
  custom : p.customExts = []

theorem modelExts_of_parsed (i : CertInputs) (f : Bare i.p) :
    modelExts i = sanRow i.p ++ kuRow i.p.keyUsages ++ ekuRow i.p.ekus := by
  simp [modelExts_rows, f.aki, akiRow, f.nc, ncRow, f.crlDps, crlDpsRow, f.isCa, skiRow, bcRow, f.custom]

theorem std_any_iff (x : List Nat) :
    stdEkus.any (fun e => e.oid == x) = standardEkuOids.contains x := by
  -- the specification's seven identifiers are those of the model's seven purposes
  rw [show standardEkuOids = stdEkus.map Eku.oid from rfl, Bool.eq_iff_iff]
  simp

theorem sameSet_import (req : List (List Nat))
    (hall : req.all (fun x => stdEkus.any (fun e => e.oid == x)) = true) :
    sameSet ((importEkus req).map rfcEkuOid) req = true := by
  unfold sameSet
  simp only [Bool.and_eq_true, List.all_eq_true, List.contains_eq_mem, decide_eq_true_eq]
  constructor
  · intro x hx
    obtain ⟨e, he, rfl⟩ := List.mem_map.1 hx
    rw [rfcEkuOid_eq]
    exact ((ImportFields.mem_importEkus req e).1 he).2
  · intro x hx
    obtain ⟨e, he, hoid⟩ := List.any_eq_true.1 (List.all_eq_true.1 hall x hx)
    obtain rfl : e.oid = x := beq_iff_eq.1 hoid
    exact List.mem_map.2 ⟨e, (ImportFields.mem_importEkus _ e).2 ⟨he, hx⟩, rfcEkuOid_eq e⟩

theorem requested_oids_supported {p p' : CertParams} {seen : List (List Nat)} {exts : List (Ext × Bytes)}
    (hp : ∀ q ∈ exts, Paired q) (h : applyRequested p seen exts = .ok p') :
    (exts.map (·.1)).all (fun e => e.oid == oidSan || e.oid == oidKeyUsage || e.oid == oidEku) = true := by
  rw [List.all_eq_true]
  intro e he
  obtain ⟨x, hx, rfl⟩ := List.mem_map.1 he
  obtain ⟨q, q', st⟩ := applyRequested_mem h x hx
  have hk := st.kindOid_eq (hp x hx)
  -- whichever of the three kinds the value has, `kindOid` computes to one of the three identifiers
  rcases st.value_cases with ⟨_, hv⟩ | ⟨_, hv⟩ | ⟨_, hv, -⟩
  all_goals
    rw [hv] at hk
    rw [← Option.some.inj hk]
    rfl

/-- reading *every* value of *every* extension-request attribute of an accepted request gives
    what the parser took from its (at most one) extension request -/
theorem requested_all (attrs : List CsrAttr) (exts : List (Ext × Bytes))
    (h : csrExtensionRequests attrs = .ok exts) :
    ((attrs.filter (fun a => a.oid == oidExtensionRequest)).mapM
        (fun a => decodeExtensionRequestAll a.values)).map List.flatten = some (exts.map (·.1)) := by
  have hreq := requested_decoded h
  -- the parser's name for the identifier and the specification's stand for the same list
  rw [show extensionRequestOid = oidExtensionRequest from rfl] at hreq
  rcases hreq with ⟨hf, rfl⟩ | ⟨a, hf, hd⟩
  · rw [hf]
    rfl
  · rw [hf]
    simp [decodeExtensionRequestAll_of_single_value a.values _ hd]

theorem issued_values {base : CertParams} {exts : List (Ext × Bytes)} (i : CertInputs)
    (hb1 : base.keyUsages = []) (hb2 : base.sans = []) (hb3 : base.ekus = [])
    (hpair : ∀ x ∈ exts, Paired x) (h : applyRequested base [] exts = .ok i.p) (fr : Bare i.p) :
    valOf (modelExts i) oidSan = valOf (exts.map (·.1)) oidSan ∧
    valOf (modelExts i) oidKeyUsage = valOf (exts.map (·.1)) oidKeyUsage ∧
    sameSet (ekuOids (valOf (modelExts i) oidEku)) (ekuOids (valOf (exts.map (·.1)) oidEku)) = true ∧
    (ekuOids (valOf (exts.map (·.1)) oidEku)).all (standardEkuOids.contains ·) = true := by
  have hl := modelExts_of_parsed i fr
  unfold sanRow kuRow ekuRow at hl
  obtain ⟨m1, m2, m3⟩ := valOf_opt3 (by decide : oidSan ≠ oidKeyUsage)
    (by decide : oidSan ≠ oidEku) (by decide : oidKeyUsage ≠ oidEku) hl
  refine ⟨m1.trans ?_, m2.trans ?_, ?_⟩
  · rcases parsed_sans hpair h with ⟨hv, hf⟩ | ⟨names, s, -, hv, -, hs, hne, -, hf⟩
    · rw [hv, hf, hb2]
      rfl
    · rw [hv, hf, hb2]
      simp [hne, ImportFields.importSans_inv names s hs]
  · rcases parsed_keyUsages hpair h with ⟨hv, hf⟩ | ⟨bits, raw, hv, hd, hne, hraw, hf⟩
    · rw [hv, hf, hb1]
      rfl
    · -- the raw value decodes to `bits` (pairing) and to the bits of the recorded usages (C02)
      rw [hv, hf]
      have hd2 := Proofs.KeyUsage.ku_value (importKeyUsages bits) hne
      rw [hraw, show decodeExtValue [2, 5, 29, 15] raw = _ from hd] at hd2
      simp [hne, (ExtValue.keyUsage.inj (Option.some.inj hd2)).symm]
  · rw [m3]
    rcases parsed_ekus hpair h with ⟨hv, hf⟩ | ⟨oids, -, hv, -, hstd, hne, hf⟩
    · rw [hv, hf, hb3]
      exact ⟨rfl, rfl⟩
    · have one (x : List (List Nat)) : ekuOids [.eku x] = x := List.append_nil x
      rw [hb3, insertStd_eq_import oids] at hne hf
      rw [hv, hf, if_neg (by simpa using hne), one, one]
      exact ⟨sameSet_import oids hstd, by simpa only [std_any_iff] using hstd⟩

theorem issued_clauses_hold (p521 crypto : Bool) (verify : Bytes → Bytes → Bytes → Bytes → Bool)
    (der : Bytes) (r : CsrParsed) (h : parseCsr p521 crypto verify der = .ok r)
    (H : Hashes) (issuer : Issuer)
    (hinv : certInvalid r.params issuer = none)
    (hnp : certPanics r.params issuer = false)
    (hsize : (encode (tbsCertificate H r.params r.key issuer)).length < 256 ^ 126) :
    c06IssueClauses der (encode (tbsCertificate H r.params r.key issuer)) = [] := by
  obtain ⟨a⟩ := CsrAccept.accepted_steps _ _ _ _ _ h
  let i : CertInputs := ⟨H, r.params, r.key, issuer⟩
  have fr0 := applyRequested_frame a.happly
  -- the base is `defaultParams` but for name and key identifier, so `fr0.aki : … = base.useAki`
  -- is `… = false` by evaluation, and likewise the other four
  have fr : Bare i.p := ⟨fr0.aki, fr0.nc, fr0.crlDps, fr0.isCa, fr0.custom⟩
  have hdec : decodeTbsCert (encode (tbsCertificate H r.params r.key issuer)) = some (modelTbs i) :=
    tbs_decodes i hinv hnp (by rw [fr.custom]; exact fun _ he => nomatch he) hsize
  have hpair := requested_paired a.hreq
  have c1 : (modelTbs i).subject = a.i.subject := by
    rw [show (modelTbs i).subject = reqName r.params.dn.iter from rfl, fr0.dn]
    exact Theorems.C03.import_preserves_or_fails _ _ a.hname
  obtain ⟨c2, c3, c4, c5⟩ := issued_values i rfl rfl rfl hpair a.happly fr
  unfold c06IssueClauses
  rw [a.hsplit]
  simp only [a.hinfo, hdec, requested_all _ _ a.hreq, List.append_eq_nil_iff, clause_eq_nil, c1,
    requested_oids_supported hpair a.happly, show (modelTbs i).exts = modelExts i from rfl,
    c2, c3, c4, c5, beq_self_eq_true, Bool.and_self, and_self]

end Rcgen.Proofs.CsrIssue
