import Rcgen.Proofs.Canonical
import Rcgen.Proofs.CrlDecode
import Rcgen.Proofs.CsrDecode
/-
  Canonical DER of whole artefacts: the leaf content rules of X.690 for every node the writers
  produce, extension values opened, DEFAULT values absent, named-bit lists minimal, SET OF
  sorted, RFC 5280 choice of time type.  The checkers of Spec/X509.lean go through a decoded
  artefact level by level (fields, entries, extensions, attributes) with one rule per level;
  `AllOk ok l` says that the members of one level pass, and the artefacts are assembled from it.
  The namespace is that of Proofs/Canonical.lean, where the rules for single nodes are.
-/
namespace Rcgen.Proofs.Canon
open Rcgen.Model Rcgen.Spec Rcgen.Proofs.Leaf Rcgen.Proofs.X509 Rcgen.Proofs.CertDecode

theorem canonical_of_asTime {t : Asn1} {x : TimeForm × Int} (h : asTime t = some x) :
    canonical t = true := by
  unfold asTime at h
  split at h
  · obtain ⟨_, hp, _⟩ := Option.map_eq_some_iff.1 h
    exact (canonical_utcTime _).trans (by rw [hp]; rfl)
  · obtain ⟨_, hp, _⟩ := Option.map_eq_some_iff.1 h
    exact (canonical_genTime _).trans (by rw [hp]; rfl)
  · cases h

theorem canonical_time (dt : DateTime) (h : checkTime dt = none) : canonical (writeTime dt) = true :=
  canonical_of_asTime (time_decodes dt h)

/-- what the string-type constructors guarantee (C13), as the X.680 alphabet of each tag -/
def valueCanon : DnValue → Bool
  | .utf8 b => utf8Valid b
  | .printable b => b.all printableChar
  | .teletex b => b.all (fun x => 32 ≤ x.toNat && x.toNat ≤ 127)
  | .ia5 b => b.all (fun x => x.toNat < 128)
  | .bmp b => pairsOk b
  | .universal b => quadsOk b

def nameCanon (dn : DistinguishedName) : Bool := dn.iter.all (fun e => valueCanon e.2)

theorem canonical_dnValue (v : DnValue) : canonical v.node = valueCanon v := by
  cases v <;> simp [DnValue.node, valueCanon]

theorem canonical_dn (dn : DistinguishedName) (ho : ∀ e ∈ dn.iter, oidOk e.1.oid = true)
    (hv : nameCanon dn = true) : canonical (writeDistinguishedName dn) = true :=
  canonical_seq_map fun e he => by
    simp [rdnNode, canonical_oid _ (ho e he), canonical_dnValue, List.all_eq_true.1 hv e he]

theorem canonical_kuValue (kus : List KeyUsage) : canonical (keyUsageValue kus) = true := by
  apply canonical_bitString
  simp only [List.length_take, List.length_cons, List.length_nil]
  omega

theorem kuValueOk_value (kus : List KeyUsage) (hne : kus ≠ []) :
    kuValueOk (keyUsageValue kus) = true := by
  obtain ⟨u, bs, hv, -, hm⟩ := KeyUsage.ku_written kus hne
  rw [hv]; exact hm

/-- every member of `l` passes `canonical` and the rule `ok` of its level (`extCanonical` for an
    Extension, `certFieldOk` for a field of a TBSCertificate, …).  `t.WF` is a premise because
    the checker reopens extension values, and only a well-formed value is read back as written. -/
def AllOk (ok : Asn1 → Bool) (l : List Asn1) : Prop :=
  ∀ t ∈ l, t.WF → canonical t = true ∧ ok t = true

namespace AllOk
variable {ok : Asn1 → Bool} {a b l : List Asn1} {t : Asn1}

theorem nil : AllOk ok [] := fun _ h => nomatch h

theorem one (h : t.WF → canonical t = true ∧ ok t = true) : AllOk ok [t] :=
  fun _ hx => List.mem_singleton.1 hx ▸ h

theorem cons (h : canonical t = true ∧ ok t = true) (hl : AllOk ok l) : AllOk ok (t :: l) :=
  fun x hx hw => (List.mem_cons.1 hx).elim (fun e => e ▸ h) (hl x · hw)

theorem append (ha : AllOk ok a) (hb : AllOk ok b) : AllOk ok (a ++ b) :=
  fun t ht => (List.mem_append.1 ht).elim (ha t) (hb t)

theorem ite {c : Prop} [Decidable c] (ha : c → AllOk ok a) (hb : ¬c → AllOk ok b) :
    AllOk ok (if c then a else b) := by
  split
  · exact ha ‹_›
  · exact hb ‹_›

theorem map {α : Type} {f : α → Asn1} {l : List α}
    (h : ∀ x ∈ l, (f x).WF → canonical (f x) = true ∧ ok (f x) = true) : AllOk ok (l.map f) := by
  intro t ht
  obtain ⟨x, hx, rfl⟩ := List.mem_map.1 ht
  exact h x hx

theorem all {c n : Nat} (h : AllOk ok l) (hw : (Asn1.cons c n l).WF) :
    l.all canonical = true ∧ l.all ok = true :=
  ⟨List.all_eq_true.2 fun t ht => (h t ht (hw.kid ht)).1,
   List.all_eq_true.2 fun t ht => (h t ht (hw.kid ht)).2⟩

end AllOk

/-- the rule `extValueCanonical` applies to the opened value of a known extension -/
def extValueRule (oid : List Nat) (t : Asn1) : Bool :=
  if oid == [2, 5, 29, 15] then kuValueOk t
  else if oid == [2, 5, 29, 19] then bcValueOk t
  else if oid == [2, 5, 29, 28] then idpValueOk t
  else if oid == [2, 5, 29, 24] then invDateOk t
  else true

theorem extValueCanonical_encode {oid : List Nat} {v : Asn1} (hw : v.WF)
    (hc : canonical v = true) (hr : extValueRule oid v = true) :
    extValueCanonical oid (encode v) = true := by
  unfold extValueCanonical
  rw [decodeAll_encode v hw]
  cases knownExtOid oid
  · rfl
  · exact Bool.and_eq_true_iff.2 ⟨hc, hr⟩

theorem extValueCanonical_unknown {oid : List Nat} (content : Bytes) (h : oid ∉ knownOids) :
    extValueCanonical oid content = true := by
  unfold extValueCanonical
  cases hk : knownExtOid oid with
  | true => exact absurd ((knownExtOid_iff oid).1 hk) h
  | false => rfl

/-- `critical` is written only when it is true, as its DEFAULT asks -/
theorem extNode_ok (oid : List Nat) (crit : Bool) (content : Bytes) (ho : oidOk oid = true)
    (hv : extValueCanonical oid content = true) :
    canonical (extNode oid crit content) = true ∧ extCanonical (extNode oid crit content) = true := by
  have h1 := asOid_oid oid ho
  cases crit <;> exact ⟨by simp [extNode, canonical_oid oid ho],
    by simp [extNode, Asn1.seq, Asn1.bool, Asn1.octets, extCanonical, extOidValueOk, critOk, h1, hv]⟩

abbrev ExtsOk := AllOk extCanonical

theorem AllOk.extOf {oid : List Nat} {crit : Bool} {v : Asn1} (ho : oidOk oid = true)
    (ht : tagsOk v = true) (hc : canonical v = true) (hr : extValueRule oid v = true) :
    ExtsOk [extOf oid crit v] :=
  .one fun hw => extNode_ok oid crit _ ho (extValueCanonical_encode (value_wf oid crit v hw ht) hc hr)

theorem AllOk.custom (l : List CustomExtension) (ho : l.any (fun e => !oidOk e.oid) = false)
    (hcu : ∀ e ∈ l, e.oid ∉ knownOids) : ExtsOk (l.map customExtNode) :=
  .map fun e he _ => extNode_ok e.oid e.critical e.content
    (by simpa using List.any_eq_false.1 ho e he) (extValueCanonical_unknown e.content (hcu e he))

theorem akiExt_ok (k : Bytes) : ExtsOk [akiExt k] :=
  .extOf (by decide) rfl (by simp) rfl

def sanCanon : SanType → Bool
  | .otherName _ v => utf8Valid v
  | _ => true

theorem canonical_sanNode (s : SanType) (hp : sanPanics s = false) (hc : sanCanon s = true) :
    canonical (sanNode s) = true := by
  cases s with
  | otherName oid v =>
    simp [sanNode, canonical_oid oid (by simpa [sanPanics] using hp), show utf8Valid v = true from hc]
  | _ => simp [sanNode]

theorem sanExt_ok (p : CertParams) (hp : p.sans.any sanPanics = false)
    (hc : p.sans.all sanCanon = true) : ExtsOk (sanExt p) :=
  .ite (fun _ => .nil) fun _ => .extOf (by decide) (tagsOk_sanValue _)
    (canonical_seq_map fun s hs =>
      canonical_sanNode s (by simpa using List.any_eq_false.1 hp s hs) (List.all_eq_true.1 hc s hs))
    rfl

theorem keyUsageExt_ok (kus : List KeyUsage) : ExtsOk (keyUsageExt kus) :=
  .ite (fun _ => .nil) fun hne => .extOf (by decide) (tagsOk_kuValue _) (canonical_kuValue _)
    (kuValueOk_value _ (by simpa using hne))

theorem ekuExt_ok (ekus : List Eku) (ho : ekus.any (fun e => !oidOk e.oid) = false) :
    ExtsOk (ekuExt ekus) :=
  .ite (fun _ => .nil) fun _ => .extOf (by decide) (tagsOk_ekuValue _)
    (canonical_seq_map fun e he => canonical_oid _ (by simpa using List.any_eq_false.1 ho e he)) rfl

def subtreeCanon : GeneralSubtree → Bool
  | .directoryName dn => nameCanon dn
  | _ => true

theorem canonical_subtreeNode (t : GeneralSubtree) (hp : subtreePanics t = false)
    (hc : subtreeCanon t = true) : canonical (subtreeNode t) = true := by
  cases t with
  | directoryName dn =>
    simp [subtreeNode, canonical_dn dn (dn_oids_ok dn (by simpa [subtreePanics] using hp)) hc]
  | _ => simp [subtreeNode]

theorem canonical_subtreesNode (tag : Nat) (ts : List GeneralSubtree)
    (hp : ts.any subtreePanics = false) (hc : ts.all subtreeCanon = true) :
    canonical (subtreesNode tag ts) = true := by
  rw [subtreesNode, implicit_seq, canonical_cons_ctx, List.all_map, List.all_eq_true]
  exact fun t ht =>
    canonical_subtreeNode t (by simpa using List.any_eq_false.1 hp t ht) (List.all_eq_true.1 hc t ht)

theorem canonical_ncValue (nc : NameConstraints)
    (hp : nc.permitted.any subtreePanics = false ∧ nc.excluded.any subtreePanics = false)
    (hc : (nc.permitted ++ nc.excluded).all subtreeCanon = true) :
    canonical (ncValue nc) = true := by
  rw [List.all_append, Bool.and_eq_true] at hc
  have h1 := canonical_subtreesNode 0 _ hp.1 hc.1
  have h2 := canonical_subtreesNode 1 _ hp.2 hc.2
  rw [ncValue, canonical_seq, List.all_append]
  split <;> split <;> simp [h1, h2]

theorem nameConstraintsExt_ok (o : Option NameConstraints) (hp : ncPanics o = false)
    (hc : ∀ nc, o = some nc → (nc.permitted ++ nc.excluded).all subtreeCanon = true) :
    ExtsOk (nameConstraintsExt o) := by
  cases o with
  | none => exact .nil
  | some nc =>
    refine .ite (fun _ => .nil) fun hem => ?_
    exact .extOf (v := ncValue nc) (by decide) (tagsOk_ncValue nc)
      (canonical_ncValue nc ((ncPanics_some nc).1 hp (by simpa using hem)) (hc nc rfl)) rfl

theorem canonical_dpNameUris (uris : List Bytes) : canonical (dpNameUris uris) = true := by
  simp [dpNameUris]

theorem crlDpsExt_ok (dps : List CrlDistributionPoint) : ExtsOk (crlDpsExt dps) :=
  .ite (fun _ => .nil) fun _ => .extOf (v := crlDpsValue dps) (by decide) (tagsOk_crlDpsValue _)
    (by simp [crlDpsValue, canonical_dpNameUris]) rfl

theorem caExts_ok (H : Hashes) (p : CertParams) (s : PubKey) : ExtsOk (caExts H p s) := by
  have hski : ExtsOk [skiExt H p s] := .extOf (by decide) rfl rfl rfl
  unfold caExts
  cases p.isCa with
  | noCa => exact .nil
  | explicitNoCa => exact hski.append (.extOf (by decide) rfl rfl rfl)
  | ca pl =>
    refine hski.append (.extOf (by decide) ?_ ?_ rfl)
    · cases pl <;> rfl
    · cases pl <;> simp

/-- what the parameter types guarantee beyond ASCII-ness: the alphabets of the string types -/
def paramsCanon (p : CertParams) (issuer : Issuer) : Bool :=
  nameCanon issuer.dn && nameCanon p.dn && p.sans.all sanCanon &&
  (match p.nameConstraints with
   | some nc => (nc.permitted ++ nc.excluded).all subtreeCanon
   | none => true)

theorem certExtensions_ok (i : CertInputs) (hx : extensionsPanic i.p = false)
    (hcu : ∀ e ∈ i.p.customExts, e.oid ∉ knownOids) (hsan : i.p.sans.all sanCanon = true)
    (hnc : ∀ nc, i.p.nameConstraints = some nc → (nc.permitted ++ nc.excluded).all subtreeCanon = true) :
    ExtsOk (certExtensions i.H i.p i.subject i.issuer) := by
  obtain ⟨hsp, heku, hncp, -, hcup⟩ := (extensionsPanic_eq_false _).1 hx
  exact (((((((AllOk.ite (fun _ => akiExt_ok _) fun _ => .nil).append (sanExt_ok _ hsp hsan)).append
    (keyUsageExt_ok _)).append (ekuExt_ok _ heku)).append (nameConstraintsExt_ok _ hncp hnc)).append
    (crlDpsExt_ok _)).append (caExts_ok _ _ _)).append (.custom _ hcup hcu)

theorem requestedExtensions_ok (p : CertParams) (hx : csrExtRequestPanics p = false)
    (hcu : ∀ e ∈ p.customExts, e.oid ∉ knownOids) (hsan : p.sans.all sanCanon = true) :
    ExtsOk (requestedExtensions p) := by
  obtain ⟨hsp, heku, hcup⟩ := (csrExtRequestPanics_eq_false _).1 hx
  exact (((keyUsageExt_ok _).append (sanExt_ok _ hsp hsan)).append (ekuExt_ok _ heku)).append
    (.custom _ hcup hcu)

theorem timeChoiceOk_writeTime (dt : DateTime) (h : checkTime dt = none) :
    timeChoiceOk (writeTime dt) = true := by
  have hy := utcYear_of_checkTime h
  rw [writeTime_eq]
  split
  · rfl
  · next hc =>
    -- the year is written with four digits, which the checker reads back
    have hlt : (Theorems.C09.utcYear dt).toNat < 10000 := by omega
    simp only [Asn1.genTime, timeChoiceOk, genTimeBytes, toUtc_year, List.cons_append,
      List.nil_append, List.take, digitsVal_four _ hlt, Bool.not_eq_true', Bool.and_eq_false_iff,
      decide_eq_false_iff_not]
    omega

theorem timeChoiceOk_of_not_gentime (t : Asn1) (h : ∀ c, t ≠ .prim 0 24 c) :
    timeChoiceOk t = true := by
  unfold timeChoiceOk
  split
  · rename_i c; exact absurd rfl (h c)
  · rfl

/-- for validity (two written times) and for a name or a key (no time at all) -/
theorem certFieldOk_seq (kids : List Asn1) (h : ∀ k ∈ kids, timeChoiceOk k = true) :
    certFieldOk (.seq kids) = true := by
  match kids with
  | [] => rfl
  | [_] => rfl
  | [a, b] => simp [Asn1.seq, certFieldOk, h a (by simp), h b (by simp)]
  | _ :: _ :: _ :: _ => rfl

theorem certFieldOk_dn (dn : DistinguishedName) : certFieldOk (writeDistinguishedName dn) = true :=
  certFieldOk_seq _ fun k hk => by obtain ⟨e, _, rfl⟩ := List.mem_map.1 hk; rfl

theorem canonical_paramNodes (a : SigAlg) : a.paramNodes.all canonical = true := by
  cases a <;> rfl

theorem canonical_algIdent (a : SigAlg) : canonical (algIdent a) = true := by
  have h1 : oidOk a.sigOid = true := by cases a <;> rfl
  simp [algIdent, canonical_oid _ h1, canonical_paramNodes]

theorem canonical_spkiAlg (a : SigAlg) : canonical (spkiAlgIdent a) = true := by
  have h1 : ∀ o ∈ a.keyOids, oidOk o = true := by cases a <;> decide
  simpa [spkiAlgIdent, canonical_paramNodes] using fun o ho => canonical_oid o (h1 o ho)

theorem canonical_spki (k : PubKey) : canonical (spkiNode k) = true := by
  simp [spkiNode, canonical_spkiAlg]

/-- the common shape of `signedCert`, `signedCrl` and `Csr.signedCsr`, which spell it out -/
def signed (tbs : Asn1) (alg : SigAlg) (sig : Bytes) : Asn1 :=
  .seq [tbs, algIdent alg, .bitStringOctets sig]

theorem signed_decodes {tbs : Asn1} {alg : SigAlg} {sig : Bytes} (ht : tagsOk tbs = true)
    (hsize : (encode (signed tbs alg sig)).length < 256 ^ 126) :
    decodeAll (encode (signed tbs alg sig)) = some (signed tbs alg sig) ∧ tbs.WF := by
  have hwf : (signed tbs alg sig).WF :=
    wf_of_tagsOk _ (by simp [signed, asn1, ht, tagsOk_algIdent]) hsize
  exact ⟨decodeAll_encode _ hwf, hwf.kid (List.mem_cons_self ..)⟩

theorem canonical_signed (tbs : Asn1) (alg : SigAlg) (sig : Bytes) :
    canonical (signed tbs alg sig) = canonical tbs := by
  simp [signed, canonical_algIdent]

/-- what `certCanonical` and `crlCanonical` ask of a signed SEQUENCE of fields, once it is decoded -/
theorem AllOk.signed {ok : Asn1 → Bool} {fields : List Asn1} (hg : AllOk ok fields)
    (hw : (Asn1.seq fields).WF) (alg : SigAlg) (sig : Bytes) :
    canonical (signed (.seq fields) alg sig) = true ∧ fields.all ok = true :=
  (hg.all hw).imp_left fun hc => (canonical_signed ..).trans ((canonical_seq _).trans hc)

theorem certFieldOk_spki (k : PubKey) : certFieldOk (spkiNode k) = true :=
  certFieldOk_seq _ fun t ht => by
    simp only [List.mem_cons, List.not_mem_nil, or_false] at ht
    rcases ht with rfl | rfl
    · cases k.alg <;> rfl
    · rfl

theorem serialNode_ok (H : Hashes) (p : CertParams) (s : PubKey) :
    canonical (serialNode H p s) = true ∧ certFieldOk (serialNode H p s) = true := by
  unfold serialNode; split <;> exact ⟨canonical_intOfBytes _, rfl⟩

def signedCert (i : CertInputs) (sig : Bytes) : Asn1 :=
  .seq [tbsCertificate i.H i.p i.subject i.issuer, algIdent i.issuer.key.alg, .bitStringOctets sig]

theorem signedCert_eq (i : CertInputs) (sig : Bytes) :
    signedCert i sig = signed (tbsCertificate i.H i.p i.subject i.issuer) i.issuer.key.alg sig := rfl

theorem cert_canonical (i : CertInputs) (sig : Bytes)
    (hinv : certInvalid i.p i.issuer = none)
    (hnp : certPanics i.p i.issuer = false)
    (hcu : ∀ e ∈ i.p.customExts, e.oid ∉ knownOids)
    (hcanon : paramsCanon i.p i.issuer = true)
    (hsize : (encode (signedCert i sig)).length < 256 ^ 126) :
    certCanonical (encode (signedCert i sig)) = true := by
  obtain ⟨ht1, ht2, -⟩ := (certInvalid_eq_none _ _).1 hinv
  obtain ⟨hp1, -, -, hp4, hp5⟩ := (certPanics_eq_false _ _).1 hnp
  simp only [paramsCanon, Bool.and_eq_true] at hcanon
  obtain ⟨⟨⟨hc1, hc2⟩, hc3⟩, hc4⟩ := hcanon
  obtain ⟨hdec, hwf⟩ := signed_decodes (tagsOk_tbs i.H i.p i.subject i.issuer) hsize
  rw [certCanonical, signedCert_eq, hdec]
  -- the seven fields that are always there, then the extension block
  refine Bool.and_eq_true_iff.2 (AllOk.signed
    (.append ?_ (.ite (fun hsw => .one fun hw => ?_) fun _ => .nil)) hwf _ _)
  · exact
      .cons ⟨by simp, rfl⟩ <|
      .cons (serialNode_ok _ _ _) <|
      .cons ⟨canonical_algIdent _, by cases i.issuer.key.alg <;> rfl⟩ <|
      .cons ⟨canonical_dn _ (dn_oids_ok _ hp1) hc1, certFieldOk_dn _⟩ <|
      .cons ⟨by simp [canonical_time, ht1, ht2],
        certFieldOk_seq _ (by simp [timeChoiceOk_writeTime, ht1, ht2])⟩ <|
      .cons ⟨canonical_dn _ (dn_oids_ok _ hp4) hc2, certFieldOk_dn _⟩ <|
      .cons ⟨canonical_spki _, certFieldOk_spki _⟩ .nil
  · have he := (certExtensions_ok i (hp5 hsw) hcu hc3
      fun nc hn => by simpa [hn] using hc4).all (hw.kid (List.mem_singleton_self _))
    exact ⟨by simpa using he.1, he.2⟩

section crl
open Rcgen.Proofs.CrlDecode

theorem idpValue_ok (idp : CrlIdp) :
    canonical (idpValue idp) = true ∧ idpValueOk (idpValue idp) = true := by
  obtain ⟨uris, scope⟩ := idp
  rcases scope with _ | _ | _ <;> exact ⟨by simp [idpValue, canonical_dpNameUris], rfl⟩

theorem crlExtensions_ok (H : Hashes) (p : CrlParams) (iss : Issuer) :
    ExtsOk (crlExtensions H p iss) := by
  refine ((akiExt_ok _).append (.extOf (by decide) rfl (canonical_intOfBytes _) rfl)).append ?_
  cases p.idp with
  | none => exact .nil
  | some d => exact .extOf (by decide) (tagsOk_idpValue d) (idpValue_ok d).1 (idpValue_ok d).2

theorem entryExtNodes_ok (r : RevokedCert)
    (hinv : ∀ d, r.invalidityDate = some d → checkTime d = none) : ExtsOk (entryExtNodes r) := by
  refine .append ?_ ?_
  · cases r.reason with
    | none => exact .nil
    | some x => exact .extOf (by decide) rfl (canonical_enumOfNat _) rfl
  · cases hd : r.invalidityDate with
    | none => exact .nil
    | some d =>
      exact .extOf (by decide) rfl (canonical_of_asTime
        (Theorems.C09.generalized_same_instant d (utcYear_of_checkTime (hinv d hd)))) rfl

theorem revokedNode_ok (r : RevokedCert) (hw : (revokedNode r).WF)
    (ht : checkTime r.revocationTime = none)
    (hinv : ∀ d, r.invalidityDate = some d → checkTime d = none) :
    canonical (revokedNode r) = true ∧ crlEntryOk (revokedNode r) = true := by
  have hd := canonical_time r.revocationTime ht
  have hc := timeChoiceOk_writeTime r.revocationTime ht
  rw [revokedNode_eq] at hw ⊢
  cases hb : (hasReason r || r.invalidityDate.isSome) with
  | false => exact ⟨by simp [hd], by simpa [Asn1.seq, crlEntryOk] using hc⟩
  | true =>
    have he := (entryExtNodes_ok r hinv).all (hw.kid (t := .seq _) (by simp [hb]))
    exact ⟨by simp [hd, he.1], by simpa [Asn1.seq, crlEntryOk, hc, extsCanonical] using he.2⟩

theorem crlFieldOk_writeTime (dt : DateTime) :
    crlFieldOk (writeTime dt) = timeChoiceOk (writeTime dt) := by
  simp only [writeTime]
  split <;> rfl

/-- `crlFieldOk` cannot tell a name from the list of entries: every SEQUENCE goes to
    `entries.all crlEntryOk`, where an RDN, being a SET, meets the default case.  The algorithm
    identifier passes the same way. -/
theorem crlFieldOk_dn (dn : DistinguishedName) : crlFieldOk (writeDistinguishedName dn) = true :=
  List.all_eq_true.2 fun k hk => by obtain ⟨e, _, rfl⟩ := List.mem_map.1 hk; rfl

def signedCrl (i : CrlInputs) (sig : Bytes) : Asn1 :=
  .seq [tbsCertList i.H i.p i.issuer, algIdent i.issuer.key.alg, .bitStringOctets sig]

theorem signedCrl_eq (i : CrlInputs) (sig : Bytes) :
    signedCrl i sig = signed (tbsCertList i.H i.p i.issuer) i.issuer.key.alg sig := rfl

theorem crl_canonical (i : CrlInputs) (sig : Bytes)
    (hinv : crlInvalid i.p i.issuer = none)
    (hcanon : nameCanon i.issuer.dn = true)
    (hsize : (encode (signedCrl i sig)).length < 256 ^ 126) :
    crlCanonical (encode (signedCrl i sig)) = true := by
  obtain ⟨hn, -, ht1, ht2, htr⟩ := (crlInvalid_eq_none _ _).1 hinv
  obtain ⟨hdec, hwf⟩ := signed_decodes (tagsOk_tbsCrl i.H i.p i.issuer) hsize
  rw [crlCanonical, signedCrl_eq, hdec]
  -- the five fields that are always there, the entries if there are any, the extension block
  refine Bool.and_eq_true_iff.2 (AllOk.signed
    (.append (.append ?_ (.ite (fun _ => .nil) fun _ => .one fun hw => ?_)) (.one fun hw => ?_))
    hwf _ _)
  · exact
      .cons ⟨canonical_intOfNat 1, rfl⟩ <|
      .cons ⟨canonical_algIdent _, by cases i.issuer.key.alg <;> rfl⟩ <|
      .cons ⟨canonical_dn _ (oids_of_checkName hn) hcanon, crlFieldOk_dn _⟩ <|
      .cons ⟨canonical_time _ ht1, (crlFieldOk_writeTime _).trans (timeChoiceOk_writeTime _ ht1)⟩ <|
      .cons ⟨canonical_time _ ht2, (crlFieldOk_writeTime _).trans (timeChoiceOk_writeTime _ ht2)⟩ .nil
  · have he := (AllOk.map fun r hr hrw =>
      revokedNode_ok r hrw (htr r hr).1 (htr r hr).2).all hw
    exact ⟨by simpa using he.1, he.2⟩
  · have he := (crlExtensions_ok i.H i.p i.issuer).all (hw.kid (List.mem_singleton_self _))
    exact ⟨by simpa using he.1, he.2⟩

end crl

namespace Csr
open Rcgen.Proofs.CsrDecode

def signedCsr (i : CsrInputs) (sig : Bytes) : Asn1 :=
  .seq [csrInfo i.p i.subject i.attrs, algIdent i.subject.alg, .bitStringOctets sig]

theorem signedCsr_eq (i : CsrInputs) (sig : Bytes) :
    signedCsr i sig = signed (csrInfo i.p i.subject i.attrs) i.subject.alg sig := rfl

/-- the raw-free twin of the signed request -/
def twin (i : CsrInputs) (vals : Attribute → Asn1) (sig : Bytes) : Asn1 :=
  signed (twinInfo i vals) i.subject.alg sig

theorem twin_decodes (i : CsrInputs) (vals : Attribute → Asn1) (hv : ValuesAreDer i.attrs vals)
    (sig : Bytes) (hsize : (encode (signedCsr i sig)).length < 256 ^ 126) :
    decodeAll (encode (signedCsr i sig)) = some (twin i vals sig) ∧ (twinInfo i vals).WF := by
  have he : encode (signedCsr i sig) = encode (twin i vals sig) := by
    simp only [signedCsr_eq, twin, signed, Asn1.seq, encode, encodeList,
      (twinInfo_resolves i vals hv).encode_eq]
  rw [he] at hsize ⊢
  exact signed_decodes (tagsOk_twinInfo i vals hv) hsize

theorem csrAttrOk_caller (o : List Nat) (v : Asn1) (ho : oidOk o = true)
    (hne : o ≠ oidExtensionRequest) : csrAttrOk (.seq [.oid o, v]) = true := by
  have h := asOid_oid o ho
  unfold oidExtensionRequest at hne
  unfold csrAttrOk
  split
  · rename_i o' exts heq
    simp only [Asn1.seq, Asn1.cons.injEq, List.cons.injEq, and_true, true_and] at heq
    obtain ⟨rfl, _⟩ := heq
    simp [h, hne]
  · rfl

theorem extensionRequestAttr_ok (p : CertParams) (hw : (extensionRequestAttr p).WF)
    (hx : csrExtRequestPanics p = false) (hcu : ∀ e ∈ p.customExts, e.oid ∉ knownOids)
    (hsan : p.sans.all sanCanon = true) :
    canonical (extensionRequestAttr p) = true ∧ csrAttrOk (extensionRequestAttr p) = true := by
  rw [extensionRequestAttr_eq] at hw ⊢
  have he := (requestedExtensions_ok p hx hcu hsan).all
    ((hw.kid (t := extReqValue p) (by simp)).kid (List.mem_singleton_self _))
  have ho : oidOk oidExtensionRequest = true := by decide
  exact ⟨by simp [extReqValue, canonical_oid _ ho, he.1],
    by simp [extReqValue, Asn1.seq, Asn1.set, csrAttrOk, asOid_oid _ ho, he.2]⟩

theorem csr_canonical (i : CsrInputs) (vals : Attribute → Asn1) (sig : Bytes)
    (hv : ValuesAreDer i.attrs vals)
    (hvc : ∀ a ∈ i.attrs, canonical (vals a) = true)
    (hne : ∀ a ∈ i.attrs, a.oid ≠ oidExtensionRequest)
    (hnp : csrPanics i.p i.attrs = false)
    (hcu : ∀ e ∈ i.p.customExts, e.oid ∉ knownOids)
    (hcanon : nameCanon i.p.dn = true) (hsan : i.p.sans.all sanCanon = true)
    (hsize : (encode (signedCsr i sig)).length < 256 ^ 126) :
    csrCanonical (encode (signedCsr i sig)) = true := by
  obtain ⟨hdec, hwf⟩ := twin_decodes i vals hv sig hsize
  obtain ⟨hp1, hp2, hp3⟩ := (csrPanics_eq_false _ _).1 hnp
  have hattrs : AllOk csrAttrOk
      ((sortByEncoding (csrAttributes i.p i.attrs)).map (resAttr (byBytes i.attrs vals))) :=
    .map fun x hx hxw => by
      rcases mem_csrAttributes (List.mem_mergeSort.1 hx) with ⟨hwr, rfl⟩ | ⟨a, ha, rfl⟩
      · rw [resAttr_extReq] at hxw ⊢
        exact extensionRequestAttr_ok i.p hxw (hp2 hwr) hcu hsan
      · obtain ⟨a', ha', hr, -⟩ := resAttr_attrNode i.attrs vals a ha
        have ho := hp3 a ha
        rw [hr]
        exact ⟨by simp [canonical_oid a.oid ho, hvc a' ha'], csrAttrOk_caller a.oid _ ho (hne a ha)⟩
  obtain ⟨hc, hf⟩ := hattrs.all (hwf.kid (t := .cons 2 0 _) (by simp))
  -- resolving a raw node does not change its encoding, so the order is that of the written set
  have hsorted : sortedBy bytesLe (((sortByEncoding (csrAttributes i.p i.attrs)).map
      (resAttr (byBytes i.attrs vals))).map encode) = true := by
    have : ∀ x ∈ sortByEncoding (csrAttributes i.p i.attrs),
        (encode ∘ resAttr (byBytes i.attrs vals)) x = encode x :=
      fun x hx => ((res_elem i vals hv x hx).1.encode_eq).symm
    rw [List.map_map, List.map_congr_left this]
    exact set_of_sorted _
  rw [csrCanonical, hdec]
  show (canonical (signed _ _ _) && (sortedBy bytesLe (List.map encode _) && List.all _ csrAttrOk)) = true
  rw [canonical_signed, twinInfo, canonical_seq, hsorted, hf]
  simp [canonical_dn _ (dn_oids_ok _ hp1) hcanon, canonical_spki, hc]

end Csr

end Rcgen.Proofs.Canon
