import Rcgen.Base.Der
import Rcgen.Proofs.DerAttr
/-
  Generic DER round trip: the strict decoder inverts the encoder on every well-formed tree,
  of any size and nesting depth.  (mutual structural induction; fuel-indexed decoder)
-/
namespace Rcgen

attribute [asn1] Asn1.seq Asn1.set Asn1.bool Asn1.null Asn1.octets Asn1.utf8 Asn1.printable
  Asn1.teletex Asn1.ia5 Asn1.utcTime Asn1.genTime Asn1.universalStr Asn1.bmp Asn1.explicit
  Asn1.implicit Asn1.intOfBytes Asn1.intOfNat Asn1.enumOfNat Asn1.bitString Asn1.bitStringOctets
  Asn1.oid Asn1.setOf

theorem decLen_encLen (n : Nat) (hn : n < 256 ^ 126) (rest : Bytes) :
    decLen (encLen n ++ rest) = some (n, rest) := by
  unfold encLen
  split
  · next h => simp [decLen, toNat_ofNat_lt (show n < 256 by omega), h]
  · next h =>
    -- a first octet 0x80 + k announces k length octets, and 0xFF is reserved: k ≤ 126, which
    -- is where the bound 256 ^ 126 on every length comes from
    have hl := beBytes_length_le n 126 hn
    have hpos : (beBytes n).length ≠ 0 := by simpa using beBytes_ne_nil (n := n) (by omega)
    simp only [List.cons_append, decLen, toNat_ofNat_lt (show 128 + (beBytes n).length < 256 by omega),
      Nat.add_sub_cancel_left, List.take_left', List.drop_left', ofBe_beBytes, beBytes_head_ne_zero,
      List.length_append, if_neg h, if_false]
    -- the first octet is not a short form, the count is neither 0 (indefinite) nor 127, and
    -- that many octets follow
    rw [if_neg (by omega), if_neg (by omega), if_neg (by omega)]

/-- the three fields `decode` reads off an identifier octet -/
theorem identByte_fields (cls num : Nat) (c : Bool) (h1 : cls < 4) (h2 : num < 31) :
    (identByte cls c num).toNat / 64 = cls ∧ ((identByte cls c num).toNat / 32 % 2 == 1) = c ∧
      (identByte cls c num).toNat % 32 = num := by
  have hv : cls * 64 + (if c then 32 else 0) + num < 256 := by split <;> omega
  rw [identByte, toNat_ofNat_lt hv]
  cases c
  · simp only [Bool.false_eq_true, if_false, beq_eq_false_iff_ne, ne_eq]; omega
  · simp only [if_true, beq_iff_eq]; omega

theorem sizeList_pos (ts : List Asn1) : 1 ≤ sizeList ts := by
  cases ts <;> simp [sizeList] <;> omega

mutual
theorem decode_encode (t : Asn1) (h : t.WF) (fuel : Nat) (hf : t.size < fuel) (rest : Bytes) :
    decode fuel (encode t ++ rest) = some (t, rest) := by
  match t, fuel with
  | _, 0 => omega
  | .raw _, _ + 1 => exact h.elim
  | .prim cls num c, fuel + 1 =>
    obtain ⟨h1, h2, h3⟩ := h
    obtain ⟨e1, e2, e3⟩ := identByte_fields cls num false h1 h2
    simp [encode, decode, e1, e2, e3, decLen_encLen _ h3, Nat.ne_of_lt h2]
  | .cons cls num ch, fuel + 1 =>
    obtain ⟨h1, h2, h3, h4⟩ := h
    obtain ⟨e1, e2, e3⟩ := identByte_fields cls num true h1 h2
    have ih := decodeList_encodeList ch h4 fuel (by simp [Asn1.size] at hf; omega)
    simp [encode, decode, e1, e2, e3, decLen_encLen _ h3, Nat.ne_of_lt h2, ih]
theorem decodeList_encodeList (ts : List Asn1) (h : WFList ts) (fuel : Nat)
    (hf : sizeList ts ≤ fuel) : decodeList fuel (encodeList ts) = some ts := by
  match ts, fuel with
  | ts, 0 => have := sizeList_pos ts; omega
  | [], fuel + 1 => simp [encodeList, decodeList]
  | t :: ts, fuel + 1 =>
    simp only [sizeList] at hf
    have := sizeList_pos ts
    have h1 := decode_encode t h.1 fuel (by omega) (encodeList ts)
    have h2 := decodeList_encodeList ts h.2 fuel (by omega)
    -- `decodeList` looks for a first octet before it calls `decode`
    cases hb : encode t ++ encodeList ts with
    | nil => cases t <;> simp [encode] at hb; exact h.1.elim
    | cons b bs => simp only [encodeList, hb, decodeList]; rw [← hb, h1]; simp only [h2]
end

theorem encLen_length_pos (n : Nat) : 1 ≤ (encLen n).length := by
  unfold encLen; split <;> simp

mutual
theorem size_le_encode (t : Asn1) (h : t.WF) : t.size + 1 ≤ 2 * (encode t).length := by
  match t with
  | .raw _ => exact h.elim
  | .prim cls num c =>
    have := encLen_length_pos c.length
    simp only [Asn1.size, encode, List.length_cons, List.length_append]
    omega
  | .cons cls num ch =>
    have ih := sizeList_le_encodeList ch h.2.2.2
    have := encLen_length_pos (encodeList ch).length
    simp only [Asn1.size, encode, List.length_cons, List.length_append]
    omega
theorem sizeList_le_encodeList (ts : List Asn1) (h : WFList ts) :
    sizeList ts ≤ 2 * (encodeList ts).length + 1 := by
  match ts with
  | [] => simp [sizeList, encodeList]
  | t :: ts =>
    have i1 := size_le_encode t h.1
    have i2 := sizeList_le_encodeList ts h.2
    simp only [sizeList, encodeList, List.length_append]
    omega
end

theorem decodeAll_encode (t : Asn1) (h : t.WF) : decodeAll (encode t) = some t := by
  have := decode_encode t h (2 * (encode t).length + 2) (by have := size_le_encode t h; omega) []
  rw [List.append_nil] at this
  simp only [decodeAll, this]

theorem uint8_and_255 (b : UInt8) : UInt8.ofNat (b.toNat &&& 255) = b := by
  rw [show b.toNat &&& 255 = b.toNat % 256 from Nat.and_two_pow_sub_one_eq_mod b.toNat 8,
    Nat.mod_eq_of_lt b.toNat_lt]
  exact UInt8.ofNat_toNat

/-- `write_bitvec_bytes(sig, 8 * sig.len())`: no unused bits, octets unchanged -/
@[asn1] theorem bitStringContent_octets (bs : Bytes) :
    bitStringContent bs (8 * bs.length) = 0 :: bs := by
  rcases List.eq_nil_or_concat bs with rfl | ⟨init, last, rfl⟩
  · rfl
  · simp only [bitStringContent, Nat.sub_self, List.concat_eq_append, List.reverse_append,
      List.reverse_cons, List.reverse_nil, List.nil_append, List.cons_append, List.reverse_reverse]
    rw [show (255 - 255 >>> (8 - 0)) = 255 from rfl, uint8_and_255]
    rfl

end Rcgen
