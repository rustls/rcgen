import Rcgen.Model.PemParse
import Rcgen.Proofs.Pem
/-
  The lenient reader (Model/PemParse.lean = pem 3.0.5 `parse`) on the texts `pemEncode` writes:
  it returns the label and the bytes that were wrapped.
-/
namespace Rcgen.Proofs.PemParse
open Rcgen.Model Rcgen.Spec

theorem loop_miss {m : Bytes} {found : Nat} {c : UInt8} (hc : m[found]? ≠ some c) (h0 : m ≠ [])
    (rest s : Bytes) :
    readUntilLoop m (c :: rest) found s =
      if (c :: rest).length < m.length - found then none else readUntilLoop m rest 0 (s ++ [c]) := by
  have h1 : (m[found]? == some c) = false := beq_eq_false_iff_ne.2 hc
  have h2 : (0 == m.length) = false := by cases m with | nil => exact absurd rfl h0 | cons _ _ => rfl
  rw [readUntilLoop]
  simp only [h1, h2, Bool.false_eq_true, if_false]

theorem loop_hit {m : Bytes} {found : Nat} {c : UInt8} (hc : m[found]? = some c) (rest s : Bytes) :
    readUntilLoop m (c :: rest) found s =
      if (c :: rest).length < m.length - found then none
      else if found + 1 = m.length then some (rest, (s ++ [c]).take ((s ++ [c]).length - (found + 1)))
      else readUntilLoop m rest (found + 1) (s ++ [c]) := by
  rw [readUntilLoop]
  simp only [hc, beq_self_eq_true, if_true, beq_iff_eq]

/-- with `m1` already matched and `m2` next in the input -/
theorem loop_match (m1 m2 rest s : Bytes) (h2 : m2 ≠ []) :
    readUntilLoop (m1 ++ m2) (m2 ++ rest) m1.length (s ++ m1) = some (rest, s) := by
  induction m2 generalizing m1 with
  | nil => exact absurd rfl h2
  | cons c m2' ih =>
    rw [List.cons_append, loop_hit (by simp),
      if_neg (by simp only [List.length_cons, List.length_append]; omega)]
    by_cases he : m2' = []
    · subst he
      rw [if_pos (by simp), List.append_assoc, List.take_left' (by simp)]; rfl
    · rw [if_neg (by cases m2' with | nil => exact absurd rfl he | cons _ _ => simp)]
      simpa using ih (m1 ++ [c]) he

/-- scanning: octets other than the marker's first leave `found` at 0 — unless the input runs
    shorter than the marker on the way, which ends the search -/
theorem loop_skip (c0 : UInt8) (m' p rest s : Bytes) (hp : ∀ x ∈ p, x ≠ c0) :
    readUntilLoop (c0 :: m') (p ++ rest) 0 s = readUntilLoop (c0 :: m') rest 0 (s ++ p) ∨
    (rest.length < (c0 :: m').length ∧ readUntilLoop (c0 :: m') (p ++ rest) 0 s = none) := by
  induction p generalizing s with
  | nil => exact .inl (by rw [List.append_nil]; rfl)
  | cons c p' ih =>
    have hc : (c0 :: m')[0]? ≠ some c := fun e => hp c List.mem_cons_self (Option.some.inj e).symm
    rw [List.cons_append, loop_miss hc (List.cons_ne_nil _ _)]
    split
    · rename_i hlen
      exact .inr ⟨by simp only [List.length_cons, List.length_append] at hlen ⊢; omega, rfl⟩
    · rw [show s ++ c :: p' = s ++ [c] ++ p' by simp]
      exact ih (s ++ [c]) fun x hx => hp x (List.mem_cons_of_mem _ hx)

/-- `read_until(p ++ marker ++ rest, marker)` where `p` is free of the marker's first octet.
    The marker is a variable of its own, with `hm`, so that it may stand in the goal under a name
    (`Model.dashes`): the caller gives `rfl`. -/
theorem readUntil_found (m p rest : Bytes) (c0 : UInt8) (m' : Bytes) (hm : m = c0 :: m')
    (hp : ∀ x ∈ p, x ≠ c0) : readUntil (p ++ (m ++ rest)) m = some (rest, p) := by
  subst hm
  have := loop_match [] (c0 :: m') rest p (List.cons_ne_nil _ _)
  rw [List.append_nil] at this
  rw [readUntil, if_neg (by simp), ← this]
  exact (loop_skip c0 m' p _ [] hp).resolve_right fun h => by
    simp only [List.length_append] at h; omega

theorem readUntil_prefix (m rest : Bytes) (c0 : UInt8) (m' : Bytes) (hm : m = c0 :: m') :
    readUntil (m ++ rest) m = some (rest, []) :=
  readUntil_found m [] rest c0 m' hm nofun

theorem readUntil_absent (m input : Bytes) (c0 : UInt8) (m' : Bytes) (hm : m = c0 :: m')
    (h : ∀ x ∈ input, x ≠ c0) : readUntil input m = none := by
  subst hm
  rw [readUntil, if_neg (by simp), ← List.append_nil input]
  rcases loop_skip c0 m' input [] [] h with e | ⟨_, e⟩
  · rw [e]; rfl
  · exact e

/-! The search for the empty line that would end a header block.  LF, the first octet of that
    marker, does occur in the body, so `readUntil_absent` says nothing: `found` is followed
    line by line. -/

/-- an LF-free stretch and its LF, read from `found = 0`, leave `found = 1` -/
theorem lflf_line (q rest s : Bytes) (hq : ∀ x ∈ q, x ≠ 10)
    (h : ∀ s, readUntilLoop [10, 10] rest 1 s = none) :
    readUntilLoop [10, 10] (q ++ 10 :: rest) 0 s = none := by
  rcases loop_skip 10 [10] q (10 :: rest) s hq with e | ⟨_, e⟩
  · rw [e, loop_hit rfl]
    split
    · rfl
    · exact h _
  · exact e

/-- a line starts with an octet other than LF, which sends `found` to 0 from wherever it stood:
    lines that are non-empty and LF-free never complete LF LF -/
theorem lflf_lines (ls : List Bytes) (h : ∀ l ∈ ls, l ≠ [] ∧ ∀ x ∈ l, x ≠ 10) (found : Nat)
    (s : Bytes) : readUntilLoop [10, 10] (ls.flatMap (fun l => l ++ [10])) found s = none := by
  induction ls generalizing found s with
  | nil => rfl
  | cons l ls ih =>
    obtain ⟨⟨hne, hno⟩, hls⟩ := List.forall_mem_cons.1 h
    obtain ⟨c, l', rfl⟩ := List.exists_cons_of_ne_nil hne
    have hc : ([10, 10] : Bytes)[found]? ≠ some c := fun e =>
      hno c List.mem_cons_self (by simpa using List.mem_of_getElem? e)
    rw [List.flatMap_cons, List.cons_append, List.cons_append, loop_miss hc (List.cons_ne_nil _ _)]
    split
    · rfl
    · rw [List.append_assoc]
      exact lflf_line l' _ _ (fun x hx => hno x (List.mem_cons_of_mem _ hx)) (ih hls 1)

theorem readUntil_lflf (ls : List Bytes) (h : ∀ l ∈ ls, l ≠ [] ∧ ∀ x ∈ l, x ≠ 10) :
    readUntil (ls.flatMap (fun l => l ++ [10])) [10, 10] = none :=
  lflf_lines ls h 0 []

/-- an octet of the base64 alphabet or `=`: below 128, no white space (`char::is_whitespace`,
    which covers the four octets `skipWhitespace` passes over), not `-` -/
def plain (x : UInt8) : Bool := x.toNat < 128 && !isAsciiWs x && x != 45

theorem b64Encode_plain (d : Bytes) : ∀ x ∈ b64Encode d, plain x = true :=
  List.all_eq_true.1 (b64Encode_all plain (by decide +kernel) rfl d)

theorem plain_ascii {x : UInt8} (h : plain x = true) : x.toNat < 128 := by
  simp only [plain, Bool.and_eq_true, decide_eq_true_eq] at h
  exact h.1.1

theorem plain_not_asciiWs {x : UInt8} (h : plain x = true) : isAsciiWs x = false := by
  simp only [plain, Bool.and_eq_true, Bool.not_eq_true'] at h
  exact h.1.2

theorem plain_ne {x c : UInt8} (h : plain x = true) (hc : plain c = false) : x ≠ c := by
  rintro rfl
  rw [h] at hc
  cases hc

theorem plain_not_pemWs {x : UInt8} (h : plain x = true) : isPemWs x = false := by
  rw [isPemWs, decide_eq_false (plain_ne h (c := 32) rfl), decide_eq_false (plain_ne h (c := 9) rfl),
    decide_eq_false (plain_ne h (c := 10) rfl), decide_eq_false (plain_ne h (c := 13) rfl)]
  rfl

theorem wsPrefixLen_ascii (b : UInt8) (r : Bytes) (hb : b.toNat < 128) :
    wsPrefixLen (b :: r) = if isAsciiWs b then 1 else 0 := by
  unfold wsPrefixLen
  split
  all_goals (rename_i h; cases h)
  -- every arm but the last fixes `b` to a lead octet ≥ 0xC2
  any_goals (refine absurd hb ?_; decide)
  rfl

/-- on ASCII, `filter(|c| !c.is_whitespace())` drops the ASCII white space octet by octet -/
theorem stripWsFuel_ascii (f : Nat) (l : Bytes) (hf : l.length ≤ f) (h : ∀ x ∈ l, x.toNat < 128) :
    stripWsFuel f l = l.filter (fun x => !isAsciiWs x) := by
  induction f generalizing l with
  | zero => rw [List.eq_nil_of_length_eq_zero (Nat.le_zero.1 hf)]; rfl
  | succ f ih =>
    cases l with
    | nil => rfl
    | cons b r =>
      have ihr := ih r (Nat.le_of_succ_le_succ hf) fun x hx => h x (List.mem_cons_of_mem _ hx)
      rw [stripWsFuel, wsPrefixLen_ascii b r (h b List.mem_cons_self), List.filter_cons]
      cases isAsciiWs b
      · exact congrArg _ ihr
      · exact ihr

theorem stripWs_lines (ls : List Bytes) (h : ∀ l ∈ ls, ∀ x ∈ l, plain x = true) :
    stripWs (ls.flatMap (fun l => l ++ [10])) = ls.flatten := by
  have hascii : ∀ x ∈ ls.flatMap (fun l => l ++ [10]), x.toNat < 128 :=
    List.forall_mem_flatMap.2 fun l hl x hx => by
      rcases List.mem_append.1 hx with hx | hx
      · exact plain_ascii (h l hl x hx)
      · cases List.mem_singleton.1 hx; decide
  rw [stripWs, stripWsFuel_ascii _ _ (Nat.le_refl _) hascii, List.filter_flatMap, List.flatMap_def,
    List.map_congr_left (g := id) fun l hl => ?_, List.map_id]
  rw [List.filter_append,
    List.filter_eq_self.2 fun x hx => by rw [plain_not_asciiWs (h l hl x hx)]; rfl]
  exact List.append_nil l

theorem pemParse_block (label : Bytes) (lines : List Bytes) (hne : label ≠ [])
    (hl : ∀ x ∈ label, x ≠ 45) (hlines : ∀ l ∈ lines, l ≠ [] ∧ ∀ x ∈ l, plain x = true) :
    pemParse (Model.beginPrefix ++ label ++ Model.dashes ++ [10] ++
        lines.flatMap (fun l => l ++ [10]) ++ Model.endPrefix ++ label ++ Model.dashes ++ [10]) =
      match b64Decode lines.flatten with
      | none => .error .invalidData
      | some contents => .ok (label, contents) := by
  have hstrip := stripWs_lines lines fun l hl' => (hlines l hl').2
  have e1 := readUntil_lflf lines fun l hl' =>
    ⟨(hlines l hl').1, fun x hx => plain_ne ((hlines l hl').2 x hx) rfl⟩
  generalize hb : lines.flatMap (fun l => l ++ [10]) = body at *
  have hbody : ∀ x ∈ body, x ≠ 45 ∧ x ≠ 13 := by
    rw [← hb]
    refine List.forall_mem_flatMap.2 fun l hl' x hx => ?_
    rcases List.mem_append.1 hx with h | h
    · exact ⟨plain_ne ((hlines l hl').2 x h) rfl, plain_ne ((hlines l hl').2 x h) rfl⟩
    · cases List.mem_singleton.1 h; decide
  -- the octet after the BEGIN line's LF is no white space: a base64 character, or the `-` of END
  have hskip : ∀ tail, skipWhitespace (10 :: (body ++ (Model.endPrefix ++ tail))) =
      body ++ (Model.endPrefix ++ tail) := fun tail => by
    rw [skipWhitespace, if_pos (by decide), ← hb]
    cases lines with
    | nil => rfl
    | cons l ls =>
      obtain ⟨hne, hplain⟩ := hlines l List.mem_cons_self
      obtain ⟨c, l', rfl⟩ := List.exists_cons_of_ne_nil hne
      show skipWhitespace (c :: _) = c :: _
      rw [skipWhitespace, plain_not_pemWs (hplain c List.mem_cons_self)]
      rfl
  have hle : label.isEmpty = false := by
    cases label with | nil => exact absurd rfl hne | cons _ _ => rfl
  -- the text nested to the right, so that each search finds its `p ++ (marker ++ rest)`
  simp only [List.append_assoc, List.cons_append, List.nil_append]
  rw [pemParse, parserInner, readUntil_prefix Model.beginPrefix _ 45 _ rfl]
  dsimp only
  rw [readUntil_found Model.dashes label _ 45 _ rfl hl]
  dsimp only
  rw [hskip, readUntil_found Model.endPrefix body _ 45 _ rfl fun x hx => (hbody x hx).1]
  dsimp only
  rw [readUntil_found Model.dashes label [10] 45 _ rfl hl, extractHeadersAndData, e1,
    readUntil_absent [13, 10, 13, 10] body 13 _ rfl fun x hx => (hbody x hx).2]
  simp only [hle, Bool.false_eq_true, if_false, bne_self_eq_false, hstrip]
  cases b64Decode lines.flatten <;> rfl

/-- rcgen's PEM loaders read rcgen's PEM texts: the five labels rcgen uses are not empty and hold
    no `-` (`label_ok`) -/
theorem pemParse_pemEncode (label der : Bytes) (hne : label ≠ []) (hl : ∀ x ∈ label, x ≠ 45) :
    pemParse (pemEncode label der) = .ok (label, der) := by
  have hlines : ∀ l ∈ chunks 64 (b64Encode der), l ≠ [] ∧ ∀ x ∈ l, plain x = true := fun l hl' =>
    ⟨chunks_nonempty (by decide) _ l hl', fun x hx =>
      b64Encode_plain der x (mem_of_mem_chunks (by decide) hl' hx)⟩
  rw [pemEncode, pemParse_block label _ hne hl hlines, chunks_flatten (by decide),
    b64Decode_b64Encode]

end Rcgen.Proofs.PemParse
