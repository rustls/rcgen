import Rcgen.Proofs.X509
/-
  KeyUsage.  `keyUsageValue` (certificate.rs `write_key_usage`) turns a 16-bit value into a
  named-bit BIT STRING: the big-endian octets of the value up to its lowest set bit.  What a reader
  gets back, and that the list is minimal, is shown for a big-endian value of any width cut there
  (`be_bitString`), hence for every non-zero 16-bit value (`u16_bitString`).  The usages enter only
  through which bits of the value they set (`keyUsageBits_testBit`).  For use elsewhere:
  `ku_written` (any non-empty list of usages: the named bits read back, minimal) and `ku_value`
  (the same through `decodeExtValue`).
-/
namespace Rcgen.Proofs.KeyUsage
open Rcgen.Model Rcgen.Spec

theorem and_mask_of_clean {x u : Nat} (hx : x < 2 ^ 8) (hu : u ≤ 8)
    (hlow : ∀ j < u, x.testBit j = false) : x &&& (255 - (255 >>> (8 - u))) = x := by
  apply Nat.eq_of_testBit_eq
  intro j
  rw [Nat.testBit_and, testBit_unusedMask u j hu]
  cases hb : x.testBit j with
  | false => rfl
  | true =>
    have hju : u ≤ j := Nat.le_of_not_lt fun hn => by rw [hlow j hn] at hb; cases hb
    simp [lt_of_testBit hx hb, hju]

theorem bitStringContent_clean (init : Bytes) (last : UInt8) (n u : Nat)
    (hn : 8 * (init.length + 1) - n = u) (hu : u ≤ 8)
    (hlow : ∀ j < u, last.toNat.testBit j = false) :
    bitStringContent (init ++ [last]) n = UInt8.ofNat u :: (init ++ [last]) := by
  unfold bitStringContent
  rw [List.reverse_append]
  simp only [List.reverse_cons, List.reverse_nil, List.nil_append, List.singleton_append,
    List.reverse_reverse, List.length_append, List.length_cons, List.length_nil, hn]
  rw [and_mask_of_clean last.toNat_lt hu hlow, UInt8.ofNat_toNat]

theorem minimal_of_testBit (bs : Bytes) (last : UInt8) (u : Nat)
    (hl : bs.getLast? = some last) (hu : u < 8) (hb : last.toNat.testBit u = true) :
    namedBitsMinimal (UInt8.ofNat u :: bs) = true := by
  have hun : (UInt8.ofNat u).toNat = u := toNat_ofNat_lt (by omega)
  cases bs with
  | nil => cases hl
  | cons b r =>
    simp only [namedBitsMinimal, hl, hun, shiftRight_mod_two, hb, hu, decide_true, Bool.and_self]

theorem bitStringContent_length (bs : Bytes) (n : Nat) :
    (bitStringContent bs n).length = bs.length + 1 := by
  unfold bitStringContent
  split
  next h =>
    rw [List.reverse_eq_nil_iff.1 h]
    rfl
  next last initRev h =>
    have := congrArg List.length h
    simp at this ⊢
    omega

theorem trailingZeros16_spec (v : Nat) (h : ∃ j < 16, v.testBit j = true) :
    trailingZeros16 v < 16 ∧ v.testBit (trailingZeros16 v) = true ∧
      ∀ j < trailingZeros16 v, v.testBit j = false := by
  unfold trailingZeros16
  simp only [shiftRight_mod_two]
  cases hf : (List.range 16).find? (fun i => v.testBit i) with
  | none =>
    obtain ⟨j, hj, hb⟩ := h
    have := List.find?_range_eq_none.1 hf j hj
    rw [hb] at this; cases this
  | some t =>
    obtain ⟨h1, h2, h3⟩ := List.find?_range_eq_some.1 hf
    exact ⟨List.mem_range.1 h2, h1, fun j hj => by simpa using h3 j hj⟩

/-- bit `i`, counted from the most significant, of an octet list, as `namedBits` reads it -/
def bitAt (bs : Bytes) (i : Nat) : Bool :=
  match bs[i / 8]? with
  | some b => (b.toNat >>> (7 - i % 8)) % 2 == 1
  | none => false

theorem namedBits_eq (u : Nat) (bs : Bytes) :
    namedBits u bs = (List.range (8 * bs.length - u)).filter (bitAt bs) := rfl

theorem bitAt_beBytesFixed (k w i : Nat) (hi : i < 8 * k) :
    bitAt (beBytesFixed k w) i = w.testBit (8 * k - 1 - i) := by
  have hlen : i / 8 < (beBytesFixed k w).length := by rw [beBytesFixed_length]; omega
  rw [bitAt, List.getElem?_eq_getElem hlen, beBytesFixed_getElem]
  simp only [shiftRight_mod_two, UInt8.toNat_ofNat']
  rw [Nat.testBit_mod_two_pow, Nat.testBit_div_two_pow, decide_eq_true (by omega : 7 - i % 8 < 8),
    Bool.true_and]
  congr 1; omega

theorem be_bitString (k w u : Nat) (hu : u < 8) (hlow : ∀ j < u, w.testBit j = false)
    (hbit : w.testBit u = true) :
    bitStringContent (beBytesFixed (k + 1) w) (8 * (k + 1) - u) =
      UInt8.ofNat u :: beBytesFixed (k + 1) w ∧
    namedBits u (beBytesFixed (k + 1) w) =
      (List.range (8 * (k + 1) - u)).filter (fun i => w.testBit (8 * (k + 1) - 1 - i)) ∧
    namedBitsMinimal (UInt8.ofNat u :: beBytesFixed (k + 1) w) = true := by
  have hlast : (UInt8.ofNat (w % 256)).toNat = w % 2 ^ 8 := by
    rw [UInt8.toNat_ofNat', show (256 : Nat) = 2 ^ 8 from rfl, Nat.mod_mod]
  have hz : ∀ j < u, (UInt8.ofNat (w % 256)).toNat.testBit j = false := fun j hj => by
    rw [hlast, Nat.testBit_mod_two_pow, hlow j hj, Bool.and_false]
  have hb : (UInt8.ofNat (w % 256)).toNat.testBit u = true := by
    rw [hlast, Nat.testBit_mod_two_pow, hbit, decide_eq_true hu]; rfl
  refine ⟨?_, ?_, minimal_of_testBit _ _ u (by simp [beBytesFixed]) hu hb⟩
  · exact bitStringContent_clean _ _ _ u (by rw [beBytesFixed_length]; omega) (by omega) hz
  · rw [namedBits_eq, beBytesFixed_length]
    exact List.filter_congr fun i hi => bitAt_beBytesFixed _ _ _ (by
      have := List.mem_range.1 hi; omega)

/-- `write_key_usage` on any non-zero 16-bit value -/
theorem u16_bitString (v : Nat) (hv : v < 2 ^ 16) (h0 : ∃ j < 16, v.testBit j = true) :
    ∃ u bs,
      bitStringContent ([UInt8.ofNat (v / 256), UInt8.ofNat (v % 256)].take
        ((16 - trailingZeros16 v + 7) / 8)) (16 - trailingZeros16 v) = u :: bs ∧
      namedBits u.toNat bs = (List.range 16).filter (fun i => v.testBit (15 - i)) ∧
      namedBitsMinimal (u :: bs) = true := by
  obtain ⟨ht, hbit, hlow⟩ := trailingZeros16_spec v h0
  generalize trailingZeros16 v = t at ht hbit hlow ⊢
  -- the octets written are the big-endian form of the value shifted down by `s` bits: one octet
  -- and `s = 8` if the low octet is zero, else both and `s = 0`; the last ends at bit `u = t - s`
  obtain ⟨k, s, u, rfl, hu, hs, hk, htake⟩ : ∃ k s u, t = u + s ∧ u < 8 ∧ s + 8 * (k + 1) = 16 ∧
      (16 - t + 7) / 8 = k + 1 ∧ [UInt8.ofNat (v / 256), UInt8.ofNat (v % 256)].take (k + 1) =
        beBytesFixed (k + 1) (v / 2 ^ s) := by
    by_cases h8 : 8 ≤ t
    · refine ⟨0, 8, t - 8, by omega, by omega, rfl, by omega, ?_⟩
      show [UInt8.ofNat (v / 256)] = [UInt8.ofNat (v / 256 % 256)]
      rw [Nat.mod_eq_of_lt (by omega)]
    · refine ⟨1, 0, t, rfl, by omega, rfl, by omega, ?_⟩
      show _ = [UInt8.ofNat (v / 1 / 256 % 256), UInt8.ofNat (v / 1 % 256)]
      rw [Nat.div_one, Nat.mod_eq_of_lt (by omega : v / 256 < 256)]; rfl
  rw [hk, htake]
  clear hk htake
  have hbits : 16 - (u + s) = 8 * (k + 1) - u := by omega
  obtain ⟨hc, hn, hm⟩ := be_bitString k (v / 2 ^ s) u hu
    (fun j hj => by rw [Nat.testBit_div_two_pow]; exact hlow _ (Nat.add_lt_add_right hj s))
    (by rw [Nat.testBit_div_two_pow]; exact hbit)
  rw [hbits]
  refine ⟨_, _, hc, ?_, hm⟩
  rw [toNat_ofNat_lt (by omega : u < 256), hn, ← hbits,
    filter_range_of_le (Nat.sub_le 16 (u + s)) (fun i h1 h2 => hlow (15 - i) (by omega))]
  exact List.filter_congr fun i hi => by
    have := List.mem_range.1 hi
    rw [Nat.testBit_div_two_pow]; congr 1; omega

theorem index_lt (k : KeyUsage) : k.index < 9 := by cases k <;> decide

theorem all_getElem (k : KeyUsage) : KeyUsage.all[k.index]? = some k := by cases k <;> rfl

theorem mem_all (k : KeyUsage) : k ∈ KeyUsage.all := List.mem_of_getElem? (all_getElem k)

theorem index_inj {a b : KeyUsage} (h : a.index = b.index) : a = b :=
  Option.some.inj (by rw [← all_getElem a, ← all_getElem b, h])

theorem reqKeyUsageBits_contains (kus : List KeyUsage) (k : KeyUsage) :
    (reqKeyUsageBits kus).contains k.index = kus.contains k := by
  unfold reqKeyUsageBits
  rw [Bool.eq_iff_iff]
  simp only [List.contains_eq_mem, List.mem_filter, List.mem_range, decide_eq_true_eq,
    List.any_eq_true, beq_iff_eq]
  exact ⟨fun ⟨_, k', hk', he⟩ => index_inj he ▸ hk', fun h => ⟨index_lt k, k, h, rfl⟩⟩

theorem keyUsageBits_testBit (kus : List KeyUsage) (j : Nat) :
    (keyUsageBits kus).testBit j = kus.any (fun k => k.index + j == 15) := by
  unfold keyUsageBits
  rw [foldl_or_testBit, Nat.zero_testBit, Bool.false_or]
  congr 1; funext k
  rw [Nat.testBit_shiftRight, show (32768 : Nat) = 2 ^ 15 from rfl, Nat.testBit_two_pow,
    Bool.eq_iff_iff, decide_eq_true_iff, beq_iff_eq]
  exact eq_comm

theorem keyUsageBits_named (kus : List KeyUsage) (i : Nat) (hi : i < 16) :
    (keyUsageBits kus).testBit (15 - i) = kus.any (fun k => k.index == i) := by
  rw [keyUsageBits_testBit]
  congr 1; funext k
  rw [Bool.eq_iff_iff, beq_iff_eq, beq_iff_eq]
  omega

theorem keyUsageBits_lt (kus : List KeyUsage) : keyUsageBits kus < 2 ^ 16 := by
  apply Nat.lt_pow_two_of_testBit
  intro j hj
  rw [keyUsageBits_testBit, List.any_eq_false]
  intro k _
  rw [beq_iff_eq]; omega

/-- for every non-empty list of usages, in any order and with any repetition -/
theorem ku_written (kus : List KeyUsage) (hne : kus ≠ []) :
    ∃ u bs, keyUsageValue kus = .prim 0 3 (u :: bs) ∧
      namedBits u.toNat bs = reqKeyUsageBits kus ∧ namedBitsMinimal (u :: bs) = true := by
  obtain ⟨k, hk⟩ := List.exists_mem_of_ne_nil kus hne
  have h0 : ∃ j < 16, (keyUsageBits kus).testBit j = true :=
    ⟨15 - k.index, by omega, by
      rw [keyUsageBits_named kus k.index (by have := index_lt k; omega), List.any_eq_true]
      exact ⟨k, hk, beq_self_eq_true _⟩⟩
  obtain ⟨u, bs, hc, hn, hm⟩ := u16_bitString _ (keyUsageBits_lt kus) h0
  refine ⟨u, bs, congrArg (Asn1.prim 0 3) hc, ?_, hm⟩
  rw [hn, reqKeyUsageBits]
  rw [filter_range_of_le (by decide : 9 ≤ 16) (fun i h9 h16 => by
    rw [keyUsageBits_named kus i h16, List.any_eq_false]
    intro k _
    have := index_lt k
    rw [beq_iff_eq]; omega)]
  exact List.filter_congr (fun i hi => keyUsageBits_named kus i (by
    have := List.mem_range.1 hi; omega))

/-- the key-usage set selected by a 9-bit mask, in named-bit order -/
def kuSubset (mask : Nat) : List KeyUsage :=
  KeyUsage.all.filter (fun k => (mask >>> k.index) % 2 == 1)

/-- decode the KeyUsage BIT STRING the model writes for a set -/
def decodedKu (kus : List KeyUsage) : Option (List Nat) :=
  match keyUsageValue kus with
  | .prim 0 3 (u :: bs) => some (namedBits u.toNat bs)
  | _ => none

theorem kuValue_wf (kus : List KeyUsage) : (keyUsageValue kus).WF := by
  refine ⟨by decide, by decide, ?_⟩
  -- the unused-bits octet and at most the two octets of flags
  rw [bitStringContent_length, List.length_take]
  have : (3 : Nat) < 256 ^ 126 := by decide
  omega

theorem ku_value (kus : List KeyUsage) (hne : kus ≠ []) :
    decodeExtValue [2, 5, 29, 15] (encode (keyUsageValue kus)) =
      some (.keyUsage (reqKeyUsageBits kus)) := by
  obtain ⟨u, bs, hv, hn, -⟩ := ku_written kus hne
  unfold decodeExtValue
  rw [decodeAll_encode _ (kuValue_wf kus), hv]
  simp [asBitString, hn]

theorem mem_kuSubset (m : Nat) (k : KeyUsage) : k ∈ kuSubset m ↔ m.testBit k.index = true := by
  rw [kuSubset, List.mem_filter, shiftRight_mod_two]
  exact and_iff_right (mem_all k)

theorem kuSubset_ne_nil (m : Nat) (h0 : m ≠ 0) (hm : m < 512) : kuSubset m ≠ [] := by
  obtain ⟨i, hi⟩ := Nat.exists_testBit_of_ne_zero h0
  have hi9 : i < 9 := lt_of_testBit (n := 9) hm hi
  have hidx : ∀ i < 9, (KeyUsage.all[i]?).map KeyUsage.index = some i := by decide
  obtain ⟨k, _, hk⟩ := Option.map_eq_some_iff.1 (hidx i hi9)
  exact List.ne_nil_of_mem ((mem_kuSubset m k).2 (by rw [hk]; exact hi))

/-- every list of usages has the members of one of the 512 `kuSubset m` that
    `C02.key_usage_bits_all_subsets` runs through -/
theorem same_as_row (kus : List KeyUsage) :
    ∃ m, m < 512 ∧ ∀ k, k ∈ kus ↔ k ∈ kuSubset m := by
  have hbit (j : Nat) : (kus.foldl (fun a (k : KeyUsage) => a ||| 2 ^ k.index) 0).testBit j =
      kus.any (fun k => k.index == j) := by
    rw [foldl_or_testBit, Nat.zero_testBit, Bool.false_or]
    congr 1; funext k
    rw [Nat.testBit_two_pow, Bool.eq_iff_iff, decide_eq_true_iff, beq_iff_eq]
  refine ⟨kus.foldl (fun a (k : KeyUsage) => a ||| 2 ^ k.index) 0, ?_, fun k => ?_⟩
  · apply Nat.lt_pow_two_of_testBit (n := 9)
    intro j hj
    rw [hbit, List.any_eq_false]
    intro k _
    have := index_lt k
    rw [beq_iff_eq]; omega
  · rw [mem_kuSubset, hbit, List.any_eq_true]
    exact ⟨fun h => ⟨k, h, beq_self_eq_true _⟩,
      fun ⟨k', hk', he⟩ => index_inj (beq_iff_eq.1 he) ▸ hk'⟩

end Rcgen.Proofs.KeyUsage
