/-
  Generic facts about `if`, `Except`, lists, `List.mapM` in `Option` and the digits and bits of a number:
  none mentions the model.
-/
namespace Rcgen.Proofs

theorem ite_cases {α : Type} {c : Prop} [Decidable c] {x y z : α} (h : (if c then x else y) = z) :
    c ∧ x = z ∨ ¬c ∧ y = z := by
  split at h
  · exact .inl ⟨‹_›, h⟩
  · exact .inr ⟨‹_›, h⟩

theorem ite_else_of_ne {α : Type} {c : Prop} [Decidable c] {x y z : α}
    (h : (if c then x else y) = z) (hx : x ≠ z) : ¬c ∧ y = z :=
  (ite_cases h).resolve_left fun ⟨_, e⟩ => hx e

theorem ok_bind {ε α β : Type} (a : α) (f : α → Except ε β) : (Except.ok a >>= f) = f a := rfl

theorem bind_ok {ε α β : Type} {x : Except ε α} {f : α → Except ε β} {b : β}
    (h : x >>= f = .ok b) : ∃ a, x = .ok a ∧ f a = .ok b := by
  cases x with
  | error e => cases h
  | ok a => exact ⟨a, rfl, h⟩

theorem ite_nil_left_iff {α : Type} (c : Prop) [Decidable c] (x : α) :
    (if c then [] else [x]) = [] ↔ c := by
  split <;> simp [*]

theorem ite_nil_right_iff {α : Type} (c : Prop) [Decidable c] (x : α) :
    (if c then [x] else []) = [] ↔ ¬c := by
  split <;> simp [*]

theorem ite_nil_left_eq_singleton {α : Type} {c : Prop} [Decidable c] {x y : α}
    (h : (if c then [] else [x]) = [y]) : ¬c ∧ x = y := by
  split at h
  · cases h
  · exact ⟨‹_›, List.head_eq_of_cons_eq h⟩

theorem isEmpty_ite_singleton {α : Type} (c : Bool) (x : α) :
    (if c then [] else [x]).isEmpty = c := by cases c <;> rfl

theorem isEmpty_append {α : Type} (a b : List α) : (a ++ b).isEmpty = (a.isEmpty && b.isEmpty) := by
  cases a <;> rfl

/-- core's `List.all_congr` asks that the tests agree everywhere; here, on the members only -/
theorem all_congr' {α : Type} {l : List α} {f g : α → Bool} (h : ∀ x ∈ l, f x = g x) :
    l.all f = l.all g := by
  induction l with
  | nil => rfl
  | cons a l ih =>
    simp only [List.all_cons, h a (by simp), ih (fun x hx => h x (by simp [hx]))]

theorem mapM_cons_eq_some {α β : Type} {f : α → Option β} {a : α} {l : List α} {r : List β} :
    (a :: l).mapM f = some r ↔ ∃ b r', f a = some b ∧ l.mapM f = some r' ∧ r = b :: r' := by
  rw [List.mapM_cons]
  cases f a <;> cases List.mapM f l <;> simp [eq_comm]

theorem mapM_nil_of_some_nil {α β : Type} (f : α → Option β) (l : List α)
    (h : l.mapM f = some []) : l = [] := by
  cases l with
  | nil => rfl
  | cons a l =>
    obtain ⟨_, _, _, _, h⟩ := mapM_cons_eq_some.1 h
    cases h

theorem mapM_singleton {β γ : Type} (g : β → Option γ) (a : β) (x : γ) (h : g a = some x) :
    [a].mapM g = some [x] := mapM_cons_eq_some.2 ⟨x, [], h, rfl, rfl⟩

theorem mapM_pair {β γ : Type} {g : β → Option γ} {a b : β} {x y : γ} (ha : g a = some x)
    (hb : g b = some y) : [a, b].mapM g = some [x, y] :=
  mapM_cons_eq_some.2 ⟨x, [y], ha, mapM_singleton g b y hb, rfl⟩

theorem mapM_map_some {α β γ : Type} (l : List α) (f : α → β) (g : β → Option γ) (h : α → γ)
    (H : ∀ x ∈ l, g (f x) = some (h x)) : (l.map f).mapM g = some (l.map h) := by
  induction l with
  | nil => rfl
  | cons a l ih =>
    exact mapM_cons_eq_some.2
      ⟨_, _, H a List.mem_cons_self, ih fun x hx => H x (List.mem_cons_of_mem a hx), rfl⟩

/-- the three tests of the name-constraint matching rule (`c` ends `n` right after a separator) -/
theorem suffix_after_sep {α : Type} (n c : List α) (x : α) :
    (n.length > c.length ∧ n.drop (n.length - c.length) = c) ∧ n[n.length - c.length - 1]? = some x ↔
      ∃ pre, n = pre ++ [x] ++ c := by
  constructor
  · rintro ⟨⟨hlen, hdrop⟩, hsep⟩
    obtain ⟨t, rfl⟩ : c <:+ n := List.suffix_iff_eq_drop.2 hdrop.symm
    have hl : (t ++ c).length - c.length = t.length := by simp
    rw [hl, List.getElem?_append_left (by rw [List.length_append] at hlen; omega),
      ← List.getLast?_eq_getElem?] at hsep
    obtain ⟨pre, rfl⟩ := List.getLast?_eq_some_iff.1 hsep
    exact ⟨pre, rfl⟩
  · rintro ⟨pre, rfl⟩
    have hl : (pre ++ [x] ++ c).length - c.length = (pre ++ [x]).length := by simp; omega
    rw [hl, List.drop_left]
    exact ⟨⟨by simp; omega, rfl⟩, by simp⟩

theorem foldl_erase_perm {α : Type} [DecidableEq α] (C : List α) :
    ∀ (acc E : List α), acc.Perm (E ++ C) → (C.foldl (fun acc a => acc.erase a) acc).Perm E := by
  induction C with
  | nil => intro acc E h; simpa using h
  | cons a C ih =>
    intro acc E h
    -- erase `a` on both sides of `acc ~ a :: (E ++ C)`
    exact ih _ _ (by simpa using (h.trans List.perm_middle).erase a)

theorem div_mod_digits {q r n : Nat} (h : r < n) : (q * n + r) / n = q ∧ (q * n + r) % n = r := by
  have hn : 0 < n := by omega
  constructor
  · rw [Nat.add_comm, Nat.mul_comm, Nat.add_mul_div_left _ _ hn, Nat.div_eq_of_lt h, Nat.zero_add]
  · rw [Nat.add_comm, Nat.mul_comm, Nat.add_mul_mod_self_left, Nat.mod_eq_of_lt h]

/-- the bit test that `trailingZeros16`, `namedBits` and `namedBitsMinimal` spell out -/
theorem shiftRight_mod_two (v i : Nat) : ((v >>> i) % 2 == 1) = v.testBit i := by
  rw [Nat.testBit_eq_decide_div_mod_eq, Nat.shiftRight_eq_div_pow]; rfl

theorem lt_of_testBit {x j n : Nat} (hx : x < 2 ^ n) (hb : x.testBit j = true) : j < n :=
  (Nat.pow_lt_pow_iff_right (by decide)).1
    (Nat.lt_of_le_of_lt (Nat.ge_two_pow_of_testBit hb) hx)

theorem foldl_or_testBit {α : Type} (f : α → Nat) (l : List α) (acc j : Nat) :
    (l.foldl (fun a k => a ||| f k) acc).testBit j =
      (acc.testBit j || l.any (fun k => (f k).testBit j)) := by
  induction l generalizing acc with
  | nil => simp
  | cons k ks ih => rw [List.foldl_cons, ih, Nat.testBit_or, List.any_cons, Bool.or_assoc]

theorem filter_range_of_le {p : Nat → Bool} {a b : Nat} (hab : a ≤ b)
    (h : ∀ i, a ≤ i → i < b → p i = false) :
    (List.range b).filter p = (List.range a).filter p := by
  obtain ⟨d, rfl⟩ := Nat.exists_eq_add_of_le hab
  have : ((List.range d).map (a + ·)).filter p = [] := by
    rw [List.filter_eq_nil_iff]
    intro x hx
    obtain ⟨i, hi, rfl⟩ := List.mem_map.1 hx
    rw [h _ (Nat.le_add_right a i) (Nat.add_lt_add_left (List.mem_range.1 hi) a)]
    exact Bool.false_ne_true
  rw [List.range_add, List.filter_append, this, List.append_nil]

theorem testBit_two_pow_sub_two_pow (w e b : Nat) (h : e ≤ w) :
    (2 ^ w - 2 ^ e).testBit b = (decide (b < w) && decide (e ≤ b)) := by
  have hlt : 2 ^ e - 1 < 2 ^ w :=
    Nat.lt_of_lt_of_le (Nat.sub_one_lt (Nat.ne_of_gt (Nat.two_pow_pos e)))
      (Nat.pow_le_pow_right (by decide) h)
  have := Nat.testBit_two_pow_sub_succ hlt b
  rw [Nat.sub_add_cancel (Nat.two_pow_pos e), Nat.testBit_two_pow_sub_one] at this
  simpa only [← decide_not, Nat.not_lt] using this

/-- the mask the BIT STRING writer applies to the last octet (`u` unused bits), bit by bit -/
theorem testBit_unusedMask (u j : Nat) (hu : u ≤ 8) :
    (255 - (255 >>> (8 - u))).testBit j = (decide (j < 8) && decide (u ≤ j)) := by
  have h : ∀ u ≤ 8, 255 - (255 >>> (8 - u)) = 2 ^ 8 - 2 ^ u := by decide
  rw [h u hu, testBit_two_pow_sub_two_pow 8 u j hu]

end Rcgen.Proofs
