import Rcgen.Model.Ctor
import Rcgen.Proofs.PrefixMask
/-
  The constructor glue of Model/Ctor.lean in closed form: `u8::from_str` yields the decimal value
  of its digits when that is at most 255 (`parseU8_eq`), `IpAddr::from_str` 4 or 16 octets,
  `from_addr_prefix` the address with the leading-ones mask of its family,
  `classifySans` the names one by one unless one is neither an address nor ASCII
  (`classifySans_eq`), `date_time_ymd` midnight of the date; and what a successful run of the
  command-line tool went through (`cliRun_ok`).
-/
namespace Rcgen.Model

/-- the checked fold of `parseU8` -/
def u8Step (acc : Option Nat) (b : UInt8) : Option Nat :=
  match acc with
  | some a => let v := a * 10 + (b.toNat - 48); if v ≤ 255 then some v else none
  | none => none

theorem u8Fold_none (ds : Bytes) : ds.foldl u8Step none = none := by
  induction ds with
  | nil => rfl
  | cons d ds ih => exact ih

/-- the unchecked decimal value of a digit string -/
def decVal (ds : Bytes) : Nat := ds.foldl (fun a b => a * 10 + (b.toNat - 48)) 0

/-- the fold of `decVal` from any value `a` of the digits already read -/
def decValFrom (a : Nat) (ds : Bytes) : Nat := ds.foldl (fun a b => a * 10 + (b.toNat - 48)) a

theorem decVal_eq (ds : Bytes) : decVal ds = decValFrom 0 ds := rfl

theorem decValFrom_cons (a : Nat) (d : UInt8) (ds : Bytes) :
    decValFrom a (d :: ds) = decValFrom (a * 10 + (d.toNat - 48)) ds := List.foldl_cons ..

theorem decValFrom_mono (ds : Bytes) (a : Nat) : a ≤ decValFrom a ds := by
  induction ds generalizing a with
  | nil => exact Nat.le_refl a
  | cons d ds ih => exact Nat.le_trans (show a ≤ a * 10 + (d.toNat - 48) by omega) (ih _)

theorem u8Fold_spec (ds : Bytes) (a : Nat) (ha : a ≤ 255) :
    ds.foldl u8Step (some a) = if decValFrom a ds ≤ 255 then some (decValFrom a ds) else none := by
  induction ds generalizing a with
  | nil => exact (if_pos ha).symm
  | cons d ds ih =>
    rw [List.foldl_cons, decValFrom_cons]
    by_cases hv : a * 10 + (d.toNat - 48) ≤ 255
    · rw [show u8Step (some a) d = some (a * 10 + (d.toNat - 48)) from if_pos hv]
      exact ih _ hv
    · -- once above 255 the unchecked value stays there
      have := decValFrom_mono ds (a * 10 + (d.toNat - 48))
      rw [show u8Step (some a) d = none from if_neg hv, u8Fold_none, if_neg (by omega)]

/-- the digits `parseU8` reads: the text after an optional `+` -/
def u8Digits (s : Bytes) : Bytes :=
  match s with
  | 43 :: rest => rest
  | _ => s

theorem parseU8_eq (s : Bytes) :
    parseU8 s =
      (if (u8Digits s).isEmpty || !(u8Digits s).all isDigit then none
       else if decVal (u8Digits s) ≤ 255 then some (decVal (u8Digits s)) else none) := by
  have hdef : parseU8 s =
      (if (u8Digits s).isEmpty || !(u8Digits s).all isDigit then none
       else (u8Digits s).foldl u8Step (some 0)) := rfl
  rw [hdef, decVal_eq, u8Fold_spec (u8Digits s) 0 (by decide)]

theorem parseU8_spec (s : Bytes) (n : Nat) (h : parseU8 s = some n) :
    n ≤ 255 ∧ n = decVal (u8Digits s) ∧ (u8Digits s) ≠ [] ∧ (u8Digits s).all isDigit = true := by
  rw [parseU8_eq] at h
  split at h
  · cases h
  · rename_i hc
    split at h
    · rename_i hv
      cases h
      exact ⟨hv, rfl, by simpa using hc⟩
    · cases h

theorem wordsToBytes_length (ws : List Nat) : (wordsToBytes ws).length = 2 * ws.length := by
  induction ws with
  | nil => rfl
  | cons w ws ih => simp [wordsToBytes, List.flatMap_cons] at ih ⊢; omega

theorem parseIpv4_len (s o : Bytes) (h : parseIpv4 s = some o) : o.length = 4 := by
  unfold parseIpv4 at h
  split at h
  · cases h; rfl
  · cases h

theorem parseIpv6_len (s o : Bytes) (h : parseIpv6 s = some o) : o.length = 16 := by
  unfold parseIpv6 at h
  split at h
  · -- no `::`: eight groups
    split at h
    · split at h
      · rename_i hl
        cases h
        rw [wordsToBytes_length, hl]
      · cases h
    · cases h
  · -- the groups on both sides of `::`, and zeros between them
    rename_i l r _
    -- takes this one `if` off; `split at h` would rewrite the `match` below it as well
    obtain ⟨-, h⟩ := Proofs.ite_else_of_ne h nofun
    generalize (if l.isEmpty = true then some [] else parseGroups false (splitOnByte 58 l)) = lw at h
    generalize (if r.isEmpty = true then some [] else parseGroups true (splitOnByte 58 r)) = rw' at h
    simp only [] at h
    split at h
    · split at h
      · cases h
        rw [wordsToBytes_length]
        simp only [List.length_append, List.length_replicate]
        omega
      · cases h
    · cases h

theorem parseIp_len (s o : Bytes) (h : parseIp s = some o) : o.length = 4 ∨ o.length = 16 := by
  unfold parseIp at h
  split at h
  · rename_i o' h4
    cases h
    exact Or.inl (parseIpv4_len _ _ h4)
  · exact Or.inr (parseIpv6_len _ _ h)

theorem fromAddrPrefix_v4 (addr : Bytes) (n : Nat) (h : addr.length = 4) :
    CidrSubnet.fromAddrPrefix addr n = .v4 addr (Theorems.C02.leadingOnes 32 n) := by
  -- the mask lemma is stated at width `8 * c`; `rw` finds `prefixMask 32 n` as `8 * 4` (and 128
  -- below as `8 * 16`) by evaluating the product
  rw [CidrSubnet.fromAddrPrefix, if_pos h, CidrSubnet.fromV4Prefix, prefixMask_eq_leadingOnes 4 n]

/-- `CidrSubnet::from_addr_prefix` takes any other length for an IPv6 address -/
theorem fromAddrPrefix_v6 (addr : Bytes) (n : Nat) (h : addr.length ≠ 4) :
    CidrSubnet.fromAddrPrefix addr n = .v6 addr (Theorems.C02.leadingOnes 128 n) := by
  rw [CidrSubnet.fromAddrPrefix, if_neg h, CidrSubnet.fromV6Prefix, prefixMask_eq_leadingOnes 16 n]

/-- the alternative name `CertificateParams::new` / the CLI makes of one given name -/
def sanOfName (n : Bytes) : SanType :=
  match parseIp n with
  | some a => .ip a
  | none => .dns n

theorem classifySan_eq (n : Bytes) :
    classifySan n =
      if (parseIp n).isSome || n.all (fun b => b.toNat < 128) then .ok (sanOfName n)
      else .error .invalidAsn1String := by
  unfold classifySan sanOfName parseIp
  cases parseIpv4 n with
  | some o => rfl
  | none =>
    cases parseIpv6 n with
    | some o => rfl
    | none => simp only [Option.isSome_none, Bool.false_or]

theorem classifySans_eq (names : List Bytes) :
    classifySans names =
      if names.all (fun n => (parseIp n).isSome || n.all (fun b => b.toNat < 128)) then
        .ok (names.map sanOfName)
      else .error .invalidAsn1String := by
  induction names with
  | nil => rfl
  | cons n rest ih =>
    unfold classifySans
    rw [ih, classifySan_eq, List.all_cons, List.map_cons]
    cases (parseIp n).isSome || n.all (fun b => b.toNat < 128) <;>
      cases rest.all (fun n => (parseIp n).isSome || n.all (fun b => b.toNat < 128)) <;> rfl

theorem classifySans_ok (names : List Bytes) (sans : List SanType) (h : classifySans names = .ok sans) :
    sans = names.map sanOfName ∧
    ∀ n ∈ names, parseIp n = none → n.all (fun b => b.toNat < 128) = true := by
  rw [classifySans_eq] at h
  split at h
  · rename_i hall
    cases h
    exact ⟨rfl, fun n hn hip => by simpa [hip] using List.all_eq_true.1 hall n hn⟩
  · cases h

theorem classifySans_error (names : List Bytes) (e : Err) (h : classifySans names = .error e) :
    e = .invalidAsn1String ∧
    ∃ n ∈ names, parseIp n = none ∧ n.all (fun b => b.toNat < 128) = false := by
  rw [classifySans_eq] at h
  split at h
  · cases h
  · rename_i hall
    cases h
    obtain ⟨n, hn, hb⟩ := List.all_eq_false.1 (Bool.eq_false_iff.2 hall)
    rw [Bool.or_eq_true, not_or, Option.isSome_iff_ne_none, Decidable.not_not,
      Bool.not_eq_true] at hb
    exact ⟨rfl, n, hn, hb⟩

/-- `CertificateParams::new` passes the verdict of `classifySans` on: its names with the defaults
    around them … -/
theorem paramsNew_ok {crypto : Bool} {names : List Bytes} {p : CertParams}
    (h : paramsNew crypto names = .ok p) :
    ∃ sans, classifySans names = .ok sans ∧
      p = { defaultParams with
            sans := sans
            keyIdMethod := if crypto then .sha256 else .preSpecified [] } := by
  unfold paramsNew at h
  split at h
  · next sans hc => exact ⟨sans, hc, (Except.ok.inj h).symm⟩
  · cases h

/-- … or its error -/
theorem paramsNew_error {crypto : Bool} {names : List Bytes} {e : Err}
    (h : paramsNew crypto names = .error e) : classifySans names = .error e := by
  unfold paramsNew at h
  split at h
  · cases h
  · next e' hc => exact hc.trans (congrArg _ (Except.error.inj h))

theorem dateTimeYmd_isSome (y : Int) (m d : Nat) :
    (dateTimeYmd y m d).isSome ↔
      (-9999 ≤ y ∧ y ≤ 9999 ∧ 1 ≤ m ∧ m ≤ 12 ∧ 1 ≤ d ∧ d ≤ daysInMonth y m) := by
  unfold dateTimeYmd
  split
  · exact iff_of_true rfl ‹_›
  · exact iff_of_false Bool.false_ne_true ‹_›

theorem dateTimeYmd_eq_some {y : Int} {m d : Nat} {dt : DateTime} (h : dateTimeYmd y m d = some dt) :
    dt = ⟨y, m, d, 0, 0, 0, 0, 0⟩ := by
  unfold dateTimeYmd at h
  split at h
  · exact (Option.some.inj h).symm
  · cases h

theorem splitOnByte_ne_nil (sep : UInt8) (p : Bytes) : splitOnByte sep p ≠ [] := by
  cases p with
  | nil => exact List.cons_ne_nil _ _
  | cons b rest =>
    unfold splitOnByte
    split
    · exact List.cons_ne_nil _ _
    · split <;> exact List.cons_ne_nil _ _

theorem splitOnByte_no_sep (sep : UInt8) (p : Bytes) (h : sep ∉ p) : splitOnByte sep p = [p] := by
  induction p with
  | nil => rfl
  | cons b rest ih =>
    have hb : b ≠ sep := fun e => h (e ▸ List.mem_cons_self)
    have hr : sep ∉ rest := fun m => h (List.mem_cons_of_mem _ m)
    simp [splitOnByte, ih hr, hb]

theorem splitOnByte_append (sep : UInt8) (a p : Bytes) (h : sep ∉ a) :
    splitOnByte sep (a ++ sep :: p) = a :: splitOnByte sep p := by
  induction a with
  | nil =>
    simp only [List.nil_append, splitOnByte]
    cases hs : splitOnByte sep p with
    | nil => exact absurd hs (splitOnByte_ne_nil sep p)
    | cons l ls => simp
  | cons b rest ih =>
    have hb : b ≠ sep := fun e => h (e ▸ List.mem_cons_self)
    have hr : sep ∉ rest := fun m => h (List.mem_cons_of_mem _ m)
    simp [splitOnByte, ih hr, hb]

/-- what a successful run of the command-line tool went through, and the plan it returns -/
theorem cliRun_ok {aws : Bool} {o : CliOptions} {plan : CliPlan} (h : cliRun aws o = .ok plan) :
    ∃ sans alg, classifySans o.sans = .ok sans ∧
      ((cliOutputs o.certFileName o.caFileName).map lexicalPath).Nodup ∧
      o.countryName.all printableByte = true ∧ cliKeyAlg aws o.alg = some alg ∧
      plan = ⟨cliCaParams o.countryName o.organizationName,
              cliEeParams o.commonName sans o.clientAuth o.serverAuth, alg,
              cliOutputs o.certFileName o.caFileName⟩ := by
  unfold cliRun at h
  split at h
  · cases h
  next sans hs =>
  obtain ⟨hn, h⟩ := Proofs.ite_else_of_ne h nofun
  obtain ⟨hc, h⟩ := Proofs.ite_else_of_ne h nofun
  split at h
  · cases h
  next alg ha =>
  cases h
  exact ⟨sans, alg, hs, by simpa [namesCollide] using hn, by simpa using hc, ha, rfl⟩

end Rcgen.Model
