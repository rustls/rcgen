import Rcgen.Model.Strings
/-
  UTF-8 facts about single scalar values, and the one lemma the three byte-checked string
  constructors rest on: a byte test that only ASCII passes is a test on the characters.  Then the
  two constructors checked on code units: what the length test and the test on the units leave,
  and that every `Char` is a scalar value.
-/
namespace Rcgen.Model

theorem char_valid (c : Char) : c.val.toNat < 55296 ∨ (57343 < c.val.toNat ∧ c.val.toNat < 1114112) :=
  c.valid

/-- `String.utf8EncodeChar` on the scalar value as a number -/
theorem utf8EncodeChar_eq (c : Char) :
    String.utf8EncodeChar c =
      if c.val.toNat ≤ 127 then [UInt8.ofNat c.val.toNat]
      else if c.val.toNat ≤ 2047 then
        [UInt8.ofNat (c.val.toNat / 64 % 32 + 192), UInt8.ofNat (c.val.toNat % 64 + 128)]
      else if c.val.toNat ≤ 65535 then
        [UInt8.ofNat (c.val.toNat / 4096 % 16 + 224), UInt8.ofNat (c.val.toNat / 64 % 64 + 128),
          UInt8.ofNat (c.val.toNat % 64 + 128)]
      else
        [UInt8.ofNat (c.val.toNat / 262144 % 8 + 240), UInt8.ofNat (c.val.toNat / 4096 % 64 + 128),
          UInt8.ofNat (c.val.toNat / 64 % 64 + 128), UInt8.ofNat (c.val.toNat % 64 + 128)] := rfl

theorem utf8_ascii (c : Char) (h : c.val.toNat ≤ 127) :
    String.utf8EncodeChar c = [UInt8.ofNat c.val.toNat] := by
  rw [utf8EncodeChar_eq, if_pos h]

theorem utf8_lead (c : Char) (h : 127 < c.val.toNat) :
    ∃ b bs, String.utf8EncodeChar c = b :: bs ∧ 128 ≤ b.toNat := by
  rw [utf8EncodeChar_eq, if_neg (Nat.not_le.2 h)]
  -- two, three or four bytes; the first is `x % m + k` with `k` = 0xC0, 0xE0, 0xF0 and `m + k ≤ 256`
  (repeat' split) <;> exact ⟨_, _, rfl, by rw [toNat_ofNat_lt (by omega)]; omega⟩

/-- the lead byte of a multi-byte sequence fails a test that only ASCII passes -/
theorem all_utf8EncodeChar (Q : Nat → Bool) (hQ : ∀ n, Q n = true → n < 128) (c : Char) :
    (String.utf8EncodeChar c).all (fun b => Q b.toNat) = Q c.val.toNat := by
  by_cases h : c.val.toNat ≤ 127
  · rw [utf8_ascii c h, List.all_cons, List.all_nil, Bool.and_true, toNat_ofNat_lt (by omega)]
  · obtain ⟨b, bs, e, hb⟩ := utf8_lead c (by omega)
    have h1 : Q b.toNat = false := Bool.eq_false_iff.2 fun q => by have := hQ _ q; omega
    have h2 : Q c.val.toNat = false := Bool.eq_false_iff.2 fun q => h (Nat.le_of_lt_succ (hQ _ q))
    rw [e, List.all_cons, h1, h2, Bool.false_and]

theorem all_utf8 (Q : Nat → Bool) (hQ : ∀ n, Q n = true → n < 128) (s : List Char) :
    (utf8 s).all (fun b => Q b.toNat) = s.all (fun c => Q c.val.toNat) := by
  simp only [utf8, List.all_flatMap, all_utf8EncodeChar Q hQ]

theorem utf8_of_ascii (s : List Char) (h : ∀ c ∈ s, c.val.toNat ≤ 127) :
    utf8 s = s.map (fun c => UInt8.ofNat c.val.toNat) := by
  rw [utf8, List.flatMap_def, List.map_congr_left fun c hc => utf8_ascii c (h c hc),
    ← List.flatMap_def, ← List.map_eq_flatMap]

/-- `printableCtor`, `ia5Ctor` and `teletexCtor` have the shape `if b.all p then some b else none`;
    in the two lemmas after this one `b` is `utf8 s` and `Q` is their test on the byte value -/
theorem all_of_guard {p : UInt8 → Bool} {x b : Bytes}
    (h : (if x.all p then some x else none) = some b) : b.all p = true :=
  have ⟨hp, e⟩ := Option.ite_some_none_eq_some.1 h
  e ▸ hp

theorem asciiCtor_isSome (Q : Nat → Bool) (hQ : ∀ n, Q n = true → n < 128) (s : List Char) :
    (if (utf8 s).all (fun b => Q b.toNat) = true then some (utf8 s) else none).isSome ↔
      ∀ c ∈ s, Q c.val.toNat = true := by
  rw [Option.isSome_ite, all_utf8 Q hQ, List.all_eq_true]

theorem asciiCtor_stored (Q : Nat → Bool) (hQ : ∀ n, Q n = true → n < 128) (s : List Char)
    (b : Bytes) (h : (if (utf8 s).all (fun b => Q b.toNat) = true then some (utf8 s) else none) = some b) :
    b = s.map (fun c => UInt8.ofNat c.val.toNat) := by
  obtain ⟨hall, rfl⟩ := Option.ite_some_none_eq_some.1 h
  rw [all_utf8 Q hQ, List.all_eq_true] at hall
  exact utf8_of_ascii s fun c hc => Nat.le_of_lt_succ (hQ _ (hall c hc))

/-- `printableByte` as a test on the byte's value: `printableByte b = printableVal b.toNat` by `rfl` -/
def printableVal (n : Nat) : Bool :=
  (65 ≤ n && n ≤ 90) || (97 ≤ n && n ≤ 122) || (48 ≤ n && n ≤ 57) ||
  n == 32 || n == 39 || n == 40 || n == 41 || n == 43 || n == 44 || n == 45 ||
  n == 46 || n == 47 || n == 58 || n == 61 || n == 63

theorem printableVal_lt (n : Nat) (h : printableVal n = true) : n < 128 := by
  simp only [printableVal, Bool.or_eq_true, Bool.and_eq_true, decide_eq_true_eq, beq_iff_eq] at h
  omega

theorem ia5Val_lt (n : Nat) (h : decide (n < 128) = true) : n < 128 := of_decide_eq_true h

theorem teletexVal_lt (n : Nat) (h : (decide (32 ≤ n) && decide (n ≤ 127)) = true) : n < 128 :=
  Nat.lt_succ_of_le (of_decide_eq_true (Bool.and_eq_true_iff.1 h).2)

/-- the shape of `universalFromUtf32be` and `bmpFromUtf16be` -/
theorem isSome_lenChecked {c : Prop} [Decidable c] {t : Bool} {b : Bytes} :
    (if ¬ c then none else if t = true then some b else none).isSome ↔ c ∧ t = true := by
  by_cases hc : c
  · rw [if_neg (not_not_intro hc), Option.isSome_ite, and_iff_right hc]
  · rw [if_pos hc]; exact ⟨nofun, fun h => absurd h.1 hc⟩

theorem lenChecked_eq_some {c : Prop} [Decidable c] {t : Bool} {b b' : Bytes}
    (h : (if ¬ c then none else if t = true then some b else none) = some b') : b' = b :=
  (Option.ite_some_none_eq_some.1 (Option.ite_none_left_eq_some.1 h).2).2.symm

theorem isScalar_char (c : Char) : isScalar c.val.toNat = true := by
  have := char_valid c
  simp only [isScalar, Bool.or_eq_true, Bool.and_eq_true, decide_eq_true_eq]
  omega

end Rcgen.Model
