import Rcgen.Proofs.CertDecode
import Rcgen.Model.Crl
/-
  Typed decode of a whole TBSCertList: what `tbsCertList` writes, encoded and read back by the
  strict DER decoder and the RFC 5280 §5 readers, is the content the CRL parameters ask for.
-/
namespace Rcgen.Proofs.CrlDecode
open Rcgen.Model Rcgen.Spec Rcgen.Proofs.Leaf Rcgen.Proofs.X509 Rcgen.Proofs.CertDecode

theorem crlNumber_value (n : Bytes) (hw : (Asn1.intOfBytes n).WF) :
    decodeExtValue [2, 5, 29, 20] (encode (Asn1.intOfBytes n)) = some (.crlNumber (ofBe n)) := by
  rw [decodeExtValue, decodeAll_encode _ hw]
  exact congrArg (Option.map _) (asNat_intOfBytes n)

theorem reason_value (c : Nat) (hw : (Asn1.enumOfNat c).WF) :
    decodeExtValue [2, 5, 29, 21] (encode (Asn1.enumOfNat c)) = some (.reason c) := by
  rw [decodeExtValue, decodeAll_encode _ hw]
  exact congrArg (Option.map _) (asEnum_enumOfNat c)

theorem invalidity_value (dt : DateTime) (h : checkTime dt = none)
    (hw : (invalidityDateNode dt).WF) :
    decodeExtValue [2, 5, 29, 24] (encode (invalidityDateNode dt)) =
      some (.invalidityDate .generalized dt.epochSeconds) := by
  have ht := Theorems.C09.generalized_same_instant dt (utcYear_of_checkTime h)
  rw [decodeExtValue, decodeAll_encode _ hw]
  -- not `congrArg … ht`: unifying it against the reader's `if` chain unfolds `asTime` on the time
  simp [invalidityDateNode, ht]

theorem idp_value (idp : CrlIdp) (hok : ∀ u ∈ idp.uris, isAscii u = true)
    (hw : (idpValue idp).WF) :
    decodeExtValue [2, 5, 29, 28] (encode (idpValue idp)) =
      some (.idp (idp.uris.map GName.uri) (idp.scope == some .userCertsOnly)
        (idp.scope == some .caCertsOnly)) := by
  have hd := decodeDpName_uris idp.uris hok
  rw [decodeExtValue, decodeAll_encode _ hw]
  obtain ⟨uris, scope⟩ := idp
  rcases scope with _ | _ | _ <;> exact congrArg (Option.map _) hd

def modelEntryExts (r : RevokedCert) : List Ext :=
  (match r.reason with
   | some x => [⟨oidReason, false, .reason x.code⟩]
   | none => []) ++
  (match r.invalidityDate with
   | some d => [⟨oidInvalidityDate, false, .invalidityDate .generalized d.epochSeconds⟩]
   | none => [])

-- `hasReason` and `entryExtNodes` name inline subterms of `revokedNode`; `revokedNode_eq` puts
-- the names back in, by `rfl`
def hasReason (r : RevokedCert) : Bool :=
  match r.reason with
  | some x => x != .unspecified
  | none => false

def modelEntry (r : RevokedCert) : RevokedEntry :=
  ⟨ofBe r.serial, reqTime r.revocationTime,
   if hasReason r || r.invalidityDate.isSome then modelEntryExts r else []⟩

def entryExtNodes (r : RevokedCert) : List Asn1 :=
  (match r.reason with
   | some x => [extOf [2, 5, 29, 21] false (.enumOfNat x.code)]
   | none => []) ++
  (match r.invalidityDate with
   | some d => [extOf [2, 5, 29, 24] false (invalidityDateNode d)]
   | none => [])

theorem revokedNode_eq (r : RevokedCert) :
    revokedNode r = .seq ([Asn1.intOfBytes r.serial, writeTime r.revocationTime] ++
      (if hasReason r || r.invalidityDate.isSome then [Asn1.seq (entryExtNodes r)] else [])) := rfl

theorem entryExts_decode (r : RevokedCert)
    (hinv : ∀ d, r.invalidityDate = some d → checkTime d = none) :
    WFList (entryExtNodes r) → (entryExtNodes r).mapM decodeExt = some (modelEntryExts r) := by
  unfold entryExtNodes modelEntryExts
  refine mapM_append_wf (fun w => ?_) (fun w => ?_)
  · cases hr : r.reason with
    | none => rfl
    | some x =>
      simp only [hr] at w ⊢
      exact mapM_one_ext [2, 5, 29, 21] false (.enumOfNat x.code) _ (by decide)
        (by simp [asn1]) (reason_value _) w
  · cases hd : r.invalidityDate with
    | none => rfl
    | some d =>
      simp only [hd] at w ⊢
      exact mapM_one_ext [2, 5, 29, 24] false (invalidityDateNode d) _ (by decide)
        (by simp [asn1, invalidityDateNode, writeGeneralized]) (invalidity_value d (hinv d hd)) w

theorem entryExtNodes_ne_nil (r : RevokedCert)
    (h : (hasReason r || r.invalidityDate.isSome) = true) : entryExtNodes r ≠ [] := by
  unfold entryExtNodes
  cases hr : r.reason with
  | some x => simp
  | none =>
    cases hd : r.invalidityDate with
    | some d => simp
    | none => simp [hasReason, hr, hd] at h

theorem decodeRevoked_node (r : RevokedCert) (hw : (revokedNode r).WF)
    (ht : checkTime r.revocationTime = none)
    (hinv : ∀ d, r.invalidityDate = some d → checkTime d = none) :
    decodeRevoked (revokedNode r) = some (modelEntry r) := by
  have hs := asNat_intOfBytes r.serial
  have hd := time_decodes r.revocationTime ht
  rw [revokedNode_eq] at hw ⊢
  unfold modelEntry
  cases hb : (hasReason r || r.invalidityDate.isSome) with
  | false =>
    simp only [Bool.false_eq_true, if_false, List.append_nil, Asn1.seq, decodeRevoked, hs, hd]
  | true =>
    have he := entryExts_decode r hinv
      (hw.kid (t := .seq (entryExtNodes r)) (by simp [hb])).kids
    simp only [if_true, Asn1.seq, List.cons_append, List.nil_append, decodeRevoked, hs, hd,
      decodeExts, he]
    simp [entryExtNodes_ne_nil r hb]

theorem tagsOk_revokedNode (r : RevokedCert) : tagsOk (revokedNode r) = true := by
  rw [revokedNode_eq]
  have hl : (entryExtNodes r).all tagsOk = true := by
    unfold entryExtNodes
    cases r.reason <;> cases r.invalidityDate <;> simp [extOf, tagsOk_extNode]
  cases hb : (hasReason r || r.invalidityDate.isSome) <;> simp [asn1, tagsOk_time, hl]

theorem tagsOk_idpValue (idp : CrlIdp) : tagsOk (idpValue idp) = true := by
  obtain ⟨uris, scope⟩ := idp
  rcases scope with _ | _ | _ <;> simp [idpValue, dpNameUris, asn1]

theorem tagsOk_crlExts (H : Hashes) (p : CrlParams) (iss : Issuer) :
    (crlExtensions H p iss).all tagsOk = true := by
  unfold crlExtensions
  cases p.idp <;> simp [akiExt, extOf, tagsOk_extNode]

theorem tagsOk_tbsCrl (H : Hashes) (p : CrlParams) (iss : Issuer) :
    tagsOk (tbsCertList H p iss) = true := by
  unfold tbsCertList
  split <;> simp [asn1, tagsOk_algIdent, tagsOk_dn, tagsOk_time, tagsOk_revokedNode, tagsOk_crlExts]

def modelCrlExts (i : CrlInputs) : List Ext :=
  [⟨oidAki, false, .aki (some (i.p.keyIdMethod.derive i.H (spkiDer i.issuer.key)))⟩,
   ⟨oidCrlNumber, false, .crlNumber (ofBe i.p.crlNumber)⟩] ++
  (match i.p.idp with
   | some d => [⟨oidIdp, true, .idp (d.uris.map GName.uri) (d.scope == some .userCertsOnly)
                  (d.scope == some .caCertsOnly)⟩]
   | none => [])

def modelCrl (i : CrlInputs) : TbsCrl :=
  { version := some 1, sigAlg := encode (algIdent i.issuer.key.alg),
    issuer := reqName i.issuer.dn.iter, thisUpdate := reqTime i.p.thisUpdate,
    nextUpdate := some (reqTime i.p.nextUpdate),
    revoked := if i.p.revoked.isEmpty then none else some (i.p.revoked.map modelEntry),
    exts := modelCrlExts i }

theorem crlExts_decode (i : CrlInputs)
    (hidp : ∀ d, i.p.idp = some d → ∀ u ∈ d.uris, checkIa5 u = none) :
    WFList (crlExtensions i.H i.p i.issuer) →
      (crlExtensions i.H i.p i.issuer).mapM decodeExt = some (modelCrlExts i) := by
  unfold crlExtensions modelCrlExts
  refine mapM_append_wf (fun w => ?_) (fun w => ?_)
  · simp only [WFList] at w
    exact mapM_pair
      (ext_piece [2, 5, 29, 35] false _ _ (by decide)
        (by simp [asn1]) (aki_value _) w.1)
      (ext_piece [2, 5, 29, 20] false (.intOfBytes i.p.crlNumber) _ (by decide)
        (by simp [asn1]) (crlNumber_value _) w.2.1)
  · cases hd : i.p.idp with
    | none => rfl
    | some d =>
      simp only [hd] at w ⊢
      exact mapM_one_ext [2, 5, 29, 28] true (idpValue d) _ (by decide) (tagsOk_idpValue d)
        (idp_value d fun u hu => (checkIa5_eq_none u).1 (hidp d hd u hu)) w

/-- what the validation at the head of `serialize_der` establishes is all the decode needs -/
theorem tbsCrl_decodes (i : CrlInputs)
    (hinv : crlInvalid i.p i.issuer = none)
    (hsize : (encode (tbsCertList i.H i.p i.issuer)).length < 256 ^ 126) :
    decodeTbsCrl (encode (tbsCertList i.H i.p i.issuer)) = some (modelCrl i) := by
  have hwf := wf_of_tagsOk _ (tagsOk_tbsCrl i.H i.p i.issuer) hsize
  unfold decodeTbsCrl
  rw [decodeAll_encode _ hwf]
  obtain ⟨hn, hidp, ht1, ht2, ht⟩ := (crlInvalid_eq_none _ _).1 hinv
  have ver : asNat (Asn1.intOfNat 1) = some 1 := asNat_intOfNat 1
  have n1 := decodeName_write i.issuer.dn (oids_of_checkName hn)
  have t1 := time_decodes i.p.thisUpdate ht1
  have t2 := time_decodes i.p.nextUpdate ht2
  -- the last child wraps the extensions
  have hx := crlExts_decode i hidp ((hwf.kid (List.mem_append_right _ (List.mem_singleton.2 rfl))).kid
    (List.mem_singleton.2 rfl)).kids
  have hne : crlExtensions i.H i.p i.issuer ≠ [] := by simp [crlExtensions]
  simp only [Option.bind, tbsCertList, Asn1.seq, Asn1.explicit, algIdent, List.cons_append,
    List.nil_append, decodeTbsCrlTree, ver, n1, t1, t2, modelCrl]
  cases hre : i.p.revoked.isEmpty with
  | true => simp [decodeExts, hx, hne]
  | false =>
    have hw : (Asn1.seq (i.p.revoked.map revokedNode)).WF := hwf.kid (by simp [hre])
    have hr : (i.p.revoked.map revokedNode).mapM decodeRevoked = some (i.p.revoked.map modelEntry) :=
      mapM_map_some _ _ _ _ fun r hr =>
        decodeRevoked_node r (hw.kid (List.mem_map_of_mem hr)) (ht r hr).1 (ht r hr).2
    have hrn : i.p.revoked ≠ [] := by simpa using hre
    simp [decodeExts, hx, hr, hne, hrn]

theorem modelCrl_entries (i : CrlInputs) :
    (modelCrl i).revoked.getD [] = i.p.revoked.map modelEntry := by
  unfold modelCrl
  cases i.p.revoked <;> rfl

theorem modelCrl_exts (i : CrlInputs) : (modelCrl i).exts = modelCrlExts i := rfl

theorem modelCrlExts_aki (i : CrlInputs) :
    (modelCrlExts i).filter (fun e => e.oid == oidAki) =
      [⟨oidAki, false, .aki (some (i.p.keyIdMethod.derive i.H (spkiDer i.issuer.key)))⟩] := by
  unfold modelCrlExts; cases i.p.idp <;> rfl

theorem modelCrlExts_number (i : CrlInputs) :
    (modelCrlExts i).filter (fun e => e.oid == oidCrlNumber) =
      [⟨oidCrlNumber, false, .crlNumber (ofBe i.p.crlNumber)⟩] := by
  unfold modelCrlExts; cases i.p.idp <;> rfl

theorem modelCrlExts_idp (i : CrlInputs) :
    (modelCrlExts i).filter (fun e => e.oid == oidIdp) =
      (match i.p.idp with
       | some d => [⟨oidIdp, true, .idp (d.uris.map GName.uri) (d.scope == some .userCertsOnly)
                      (d.scope == some .caCertsOnly)⟩]
       | none => []) := by
  unfold modelCrlExts; cases i.p.idp <;> rfl

theorem reqRevoked_model (r : RevokedCert) : reqRevoked r (modelEntry r) = true := by
  obtain ⟨serial, t, reason, inv⟩ := r
  -- `reqRevoked` treats no reason and `unspecified` alike, and every other reason uniformly
  rcases reason with _ | x
  · cases inv <;>
      simp [reqRevoked, modelEntry, modelEntryExts, hasReason, reqTime, oidReason, oidInvalidityDate]
  · by_cases hx : x = .unspecified
    · subst hx
      cases inv <;> simp [reqRevoked, modelEntry, modelEntryExts, hasReason, reqTime, oidReason,
        oidInvalidityDate, RevocationReason.code]
    · cases inv <;> simp [reqRevoked, modelEntry, modelEntryExts, hasReason, reqTime, oidReason,
        oidInvalidityDate, hx]

theorem revokedMatch_model (l : List RevokedCert) : revokedMatch l (l.map modelEntry) = true := by
  induction l with
  | nil => rfl
  | cons r l ih => simp [revokedMatch, reqRevoked_model r, ih]

theorem revokedIffListed_of_entries (l : List RevokedCert) (c : TbsCrl)
    (h : c.revoked.getD [] = l.map modelEntry) : revokedIffListed l c = true := by
  unfold revokedIffListed isRevoked
  rw [h]
  simp only [Bool.and_eq_true, List.all_eq_true, List.any_eq_true, List.mem_map, beq_iff_eq]
  refine ⟨fun r hr => ⟨modelEntry r, ⟨r, hr, rfl⟩, rfl⟩, ?_⟩
  rintro e ⟨r, hr, rfl⟩
  exact ⟨r, hr, rfl⟩

theorem crlNextUpdateInvalid_eq_false (p : CrlParams) :
    crlNextUpdateInvalid p = false ↔ p.thisUpdate.epochSeconds < p.nextUpdate.epochSeconds := by
  simp [crlNextUpdateInvalid]

theorem crlIssuerNotSigner_eq_false (iss : Issuer) :
    crlIssuerNotSigner iss = false ↔
      (iss.keyUsages.isEmpty || iss.keyUsages.contains .crlSign) = true := by
  unfold crlIssuerNotSigner
  cases iss.keyUsages.isEmpty <;> cases iss.keyUsages.contains .crlSign <;> decide

/-- a CRL that is not refused says exactly what its parameters say -/
theorem c08_clauses_hold (i : CrlInputs)
    (hn : crlNextUpdateInvalid i.p = false)
    (hs : crlIssuerNotSigner i.issuer = false)
    (hinv : crlInvalid i.p i.issuer = none)
    (hsize : (encode (tbsCertList i.H i.p i.issuer)).length < 256 ^ 126) :
    c08Clauses i (encode (tbsCertList i.H i.p i.issuer)) = [] := by
  unfold c08Clauses
  rw [tbsCrl_decodes i hinv hsize]
  have hlt := (crlNextUpdateInvalid_eq_false i.p).1 hn
  simp only [List.append_eq_nil_iff, clause_eq_nil, and_assoc, modelCrl_exts, modelCrlExts_aki,
    modelCrlExts_number, modelCrlExts_idp, modelCrl_entries]
  refine ⟨beq_self_eq_true _, beq_self_eq_true _, beq_self_eq_true _, beq_self_eq_true _, ?_, ?_, ?_,
    revokedMatch_model _, revokedIffListed_of_entries _ _ (modelCrl_entries i),
    by simpa [modelCrl, reqTime] using hlt, (crlIssuerNotSigner_eq_false i.issuer).1 hs⟩
  · simp [spki_is_rfc, derive_reqKeyId]
  · cases i.p.idp <;> simp
  · unfold modelCrlExts; cases i.p.idp <;> rfl

theorem revocationDates_ok (l : List RevokedCert) :
    (l.zip (l.map modelEntry)).all (fun (r, e) => timeFieldOk r.revocationTime e.date) = true := by
  induction l with
  | nil => rfl
  | cons r l ih =>
    simp only [List.map_cons, List.zip_cons_cons, List.all_cons, ih, Bool.and_true]
    exact timeFieldOk_reqTime r.revocationTime

/-- C05 on a whole CRL -/
theorem c05_crl_clauses_hold (i : CrlInputs)
    (hinv : crlInvalid i.p i.issuer = none)
    (hsize : (encode (tbsCertList i.H i.p i.issuer)).length < 256 ^ 126) :
    c05CrlClauses i (encode (tbsCertList i.H i.p i.issuer)) = [] := by
  unfold c05CrlClauses
  rw [tbsCrl_decodes i hinv hsize]
  simp only [List.append_eq_nil_iff, clause_eq_nil, and_assoc, modelCrl_exts, modelCrlExts_aki,
    modelCrlExts_number, modelCrlExts_idp]
  refine ⟨rfl, rfl, rfl, rfl, ?_, ?_⟩
  · cases i.p.idp <;> rfl
  · unfold modelCrl; cases i.p.revoked <;> rfl

end Rcgen.Proofs.CrlDecode
