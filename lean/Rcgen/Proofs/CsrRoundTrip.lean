import Rcgen.Proofs.Canon
import Rcgen.Proofs.ImportFields
import Rcgen.Theorems.C03
import Rcgen.Model.CsrParse
import Rcgen.Proofs.CsrAccept
import Rcgen.Proofs.Spki
/-
  C07 (round-trip clause): what `CertificateSigningRequestParams::from_der` returns for a
  request rcgen itself generated.  The request is `signedCsr i sig`; strict decoding gives the
  record of `csr_decodes`; every gate of `parseCsr` is then followed on that record.
-/
namespace Rcgen.Proofs.CsrRoundTrip
open Rcgen.Model Rcgen.Spec Rcgen.Proofs.CsrDecode Rcgen.Proofs.Canon.Csr Rcgen.Proofs.X509
open Rcgen.Proofs.CsrAccept
open Rcgen.Proofs.CertDecode (kuRow sanRow ekuRow)

theorem splitSigned_signedCsr (i : CsrInputs) (vals : Attribute → Asn1) (sig : Bytes)
    (hv : ValuesAreDer i.attrs vals)
    (hsize : (encode (signedCsr i sig)).length < 256 ^ 126) :
    splitSigned (encode (signedCsr i sig)) =
      some (encode (csrInfo i.p i.subject i.attrs), encode (algIdent i.subject.alg), sig) := by
  unfold splitSigned
  rw [(twin_decodes i vals hv sig hsize).1]
  simp only [twin, Canon.signed, Asn1.seq, Asn1.bitStringOctets, Asn1.bitString, bitStringContent_octets]
  rw [← (twinInfo_resolves i vals hv).encode_eq]
  rfl

theorem algIdOid_algIdent (a : SigAlg) : algIdOid (encode (algIdent a)) = some a.sigOid := by
  cases a <;> decide +kernel

theorem sigAlgFromOid_self (p521 : Bool) (a : SigAlg) (h : a ∈ buildAlgs p521) :
    sigAlgFromOid p521 a.sigOid = some a := by
  cases p521 <;> cases a <;> first | decide | (simp [buildAlgs] at h)

theorem csrKeyAlg_self (p521 : Bool) (a : SigAlg) :
    csrKeyAlg p521 a (encode (spkiAlgIdent a)) = some a := by
  unfold csrKeyAlg; simp

theorem sameKeyType_self (a : SigAlg) : a.sameKeyType a = true := by
  unfold SigAlg.sameKeyType; simp

theorem oids_agree : extensionRequestOid = oidExtensionRequest := rfl

theorem filter_extReq (i : CsrInputs) (hoids : ∀ a ∈ i.attrs, oidOk a.oid = true)
    (hne : ∀ a ∈ i.attrs, a.oid ≠ extensionRequestOid) :
    (modelCsr i).attrs.filter (fun a => a.oid == extensionRequestOid) = extReqSem i := by
  have hp := (attrs_perm i hoids).filter (fun a => a.oid == extensionRequestOid)
  rw [List.filter_append] at hp
  have h1 : (callerAttrs i).filter (fun a => a.oid == extensionRequestOid) = [] := by
    unfold callerAttrs
    rw [List.filter_eq_nil_iff]
    intro a ha
    obtain ⟨x, hx, rfl⟩ := List.mem_map.1 ha
    simpa using hne x hx
  have h2 : (extReqSem i).filter (fun a => a.oid == extensionRequestOid) = extReqSem i := by
    unfold extReqSem
    split <;> simp [oids_agree]
  rw [h1, h2, List.append_nil] at hp
  exact perm_extReqSem hp

theorem exts_of_generated (i : CsrInputs) (exts : List (Ext × Bytes))
    (hnp : csrPanics i.p i.attrs = false)
    (hne : ∀ a ∈ i.attrs, a.oid ≠ extensionRequestOid)
    (hc : ∀ e ∈ i.p.customExts, e.oid ∉ knownOids)
    (hsize : (encode (csrInfo i.p i.subject i.attrs)).length < 256 ^ 126)
    (h : csrExtensionRequests (modelCsr i).attrs = .ok exts) :
    (∀ x ∈ exts, Paired x) ∧ exts.map (·.1) = modelCsrExts i := by
  obtain ⟨-, hx, hoids⟩ := (csrPanics_eq_false _ _).1 hnp
  refine ⟨requested_paired h, ?_⟩
  have hcase := requested_decoded h
  rw [filter_extReq i hoids hne] at hcase
  unfold extReqSem at hcase
  cases hw : writeExtensionRequest i.p with
  | false =>
    rw [hw] at hcase
    rcases hcase with ⟨-, rfl⟩ | ⟨_, hf, -⟩
    · exact ((modelCsrExts_eq_nil_iff i).2 hw).symm
    · cases hf
  | true =>
    rw [hw] at hcase
    rcases hcase with ⟨hf, -⟩ | ⟨a, hf, hd⟩
    · cases hf
    · cases hf
      rw [decode_extReqValue i (extReq_wf i hw hsize) (hx hw) hc] at hd
      exact (Option.some.inj hd).symm

theorem applied_fields (i : CsrInputs) (base p' : CertParams) (exts : List (Ext × Bytes))
    (hcustom : i.p.customExts = [])
    (b1 : base.keyUsages = []) (b2 : base.sans = []) (b3 : base.ekus = [])
    (hp : ∀ x ∈ exts, Paired x) (hm : exts.map (·.1) = modelCsrExts i)
    (h : applyRequested base [] exts = .ok p') :
    p'.keyUsages = KeyUsage.all.filter (fun k => i.p.keyUsages.contains k) ∧
    p'.sans = i.p.sans ∧
    p'.ekus = importEkus (i.p.ekus.map rfcEkuOid) := by
  have hl : exts.map (·.1) = kuRow i.p.keyUsages ++ sanRow i.p ++ ekuRow i.p.ekus := by
    rw [hm]; unfold modelCsrExts; rw [hcustom]; exact List.append_nil _
  unfold kuRow sanRow ekuRow at hl
  obtain ⟨v1, v2, v3⟩ := valOf_opt3 (by decide : oidKeyUsage ≠ oidSan)
    (by decide : oidKeyUsage ≠ oidEku) (by decide : oidSan ≠ oidEku) hl
  refine ⟨?_, ?_, ?_⟩
  · have hk := parsed_keyUsages hp h
    rw [v1] at hk
    rcases hk with ⟨hv, hf⟩ | ⟨bits, raw, hv, -, -, -, hf⟩
    · rw [hf, b1, List.isEmpty_iff.1 ((ite_nil_left_iff _ _).1 hv)]
      rfl
    · rw [hf]
      cases (ite_nil_left_eq_singleton hv).2
      exact ImportFields.key_usage_reversal _
  · have hk := parsed_sans hp h
    rw [v2] at hk
    rcases hk with ⟨hv, hf⟩ | ⟨names, s, -, hv, -, hs, -, -, hf⟩
    · rw [hf, b2]
      exact (List.isEmpty_iff.1 ((ite_nil_left_iff _ _).1 hv)).symm
    · -- accepted names import to what writes them back, and `reqSan` is injective
      rw [hf, b2]
      cases (ite_nil_left_eq_singleton hv).2
      exact (List.map_inj_right fun _ _ => ImportFields.reqSan_injective).1
        (ImportFields.importSans_inv _ s hs)
  · have hk := parsed_ekus hp h
    rw [v3] at hk
    rcases hk with ⟨hv, hf⟩ | ⟨oids, -, hv, -, -, -, hf⟩
    · rw [hf, b3, List.isEmpty_iff.1 ((ite_nil_left_iff _ _).1 hv)]
      rfl
    · rw [hf, b3]
      cases (ite_nil_left_eq_singleton hv).2
      exact insertStd_eq_import _

theorem sigOid_inj (a b : SigAlg) (h : a.sigOid = b.sigOid) : a = b :=
  -- `sigAlgFromOid true` is a left inverse: every algorithm is in the aws-lc-rs build
  Option.some.inj <|
    (sigAlgFromOid_self true a (by cases a <;> decide)).symm.trans
      (h ▸ sigAlgFromOid_self true b (by cases b <;> decide))

theorem sigAlgFromOid_sound (p521 : Bool) (a b : SigAlg) (h : sigAlgFromOid p521 a.sigOid = some b) :
    b = a := by
  unfold sigAlgFromOid at h
  have := List.find?_some h
  simp only [beq_iff_eq] at this
  exact sigOid_inj _ _ this

/-- `C07.csr_round_trip` without its two hypotheses on the alternative names: a request that is
    accepted has importable names -/
theorem parse_of_generated (p521 crypto : Bool) (verify : Bytes → Bytes → Bytes → Bytes → Bool)
    (i : CsrInputs) (vals : Attribute → Asn1) (sig : Bytes) (r : CsrParsed)
    (hv : ValuesAreDer i.attrs vals)
    (hnp : csrPanics i.p i.attrs = false)
    (hne : ∀ a ∈ i.attrs, a.oid ≠ extensionRequestOid)
    (hcustom : i.p.customExts = [])
    (hsize : (encode (signedCsr i sig)).length < 256 ^ 126)
    (h : parseCsr p521 crypto verify (encode (signedCsr i sig)) = .ok r) :
    reqName r.params.dn.iter = reqName i.p.dn.iter ∧
    r.params.keyUsages = KeyUsage.all.filter (fun k => i.p.keyUsages.contains k) ∧
    r.params.sans = i.p.sans ∧
    (∀ e, e ∈ r.params.ekus ↔ (e ∈ stdEkus ∧ ∃ x ∈ i.p.ekus, rfcEkuOid x = e.oid)) ∧
    r.key = i.subject := by
  obtain ⟨⟨info, algDer, sig', ci, spkiAlg, keyBits, oid, sigAlg, dn, exts, hsplit, hinfo, hparts,
    -, hoid, hsig, hkey, -, hname, hreq, happly, hraw, -⟩⟩ := CsrAccept.accepted_steps _ _ _ _ _ h
  -- the certificationRequestInfo is a child of the request, the SubjectPublicKeyInfo one of it
  have hsz2 : (encode (csrInfo i.p i.subject i.attrs)).length < 256 ^ 126 :=
    Nat.lt_of_le_of_lt (encode_child_le (t := csrInfo i.p i.subject i.attrs) List.mem_cons_self) hsize
  have hsz3 : (spkiDer i.subject).length < 256 ^ 126 :=
    Nat.lt_of_le_of_lt (encode_child_le (t := spkiNode i.subject)
      (List.mem_cons_of_mem _ (List.mem_cons_of_mem _ List.mem_cons_self))) hsz2
  -- what each gate computes on a generated request fixes what it handed on
  cases (splitSigned_signedCsr i vals sig hv hsize).symm.trans hsplit
  cases (csr_decodes i vals hv hnp hsz2).symm.trans hinfo
  cases (Spki.spkiParts_spkiDer i.subject hsz3).symm.trans hparts
  cases (algIdOid_algIdent _).symm.trans hoid
  cases sigAlgFromOid_sound p521 _ _ hsig
  rw [csrKeyAlg_self] at hkey
  obtain ⟨hpair, hm⟩ := exts_of_generated i exts hnp hne (by rw [hcustom]; exact fun _ he => nomatch he) hsz2 hreq
  obtain ⟨f2, f3, f4⟩ := applied_fields i _ _ exts hcustom rfl rfl rfl hpair hm happly
  refine ⟨?_, f2, f3, fun e => ?_, ?_⟩
  · rw [(applyRequested_frame happly).dn]
    exact Theorems.C03.import_preserves_or_fails _ _ hname
  · rw [f4]
    exact ImportFields.ekus_recovered _ e
  · -- a key is its algorithm and its bits
    show (⟨r.key.alg, r.key.raw⟩ : PubKey) = ⟨i.subject.alg, i.subject.raw⟩
    rw [← Option.some.inj hkey, hraw]

end Rcgen.Proofs.CsrRoundTrip
