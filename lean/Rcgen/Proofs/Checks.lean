import Rcgen.Model.Csr
import Rcgen.Proofs.Time
import Rcgen.Model.Crl
/-
  The up-front validation (`firstErr` over `checkTime`/`checkName`/`checkOid`/`checkIa5`) as
  equations: when each check, and each of `certInvalid`, `csrInvalid`, `crlInvalid`, finds
  nothing.  Every proof that starts from `…Invalid … = none` unpacks it with these; what a passed
  check gives further: `utcYear_of_checkTime`, `oids_of_checkName`.  Then the same for the
  hypotheses `…Panics … = false` (`certPanics_eq_false`, …).
-/
namespace Rcgen.Model

theorem firstErr_nil : firstErr [] = none := rfl

theorem firstErr_cons (a : Option Err) (l : List (Option Err)) :
    firstErr (a :: l) = none ↔ a = none ∧ firstErr l = none := by
  cases a <;> simp [firstErr]

theorem firstErr_append (a b : List (Option Err)) :
    firstErr (a ++ b) = none ↔ firstErr a = none ∧ firstErr b = none := by
  induction a with
  | nil => simp [firstErr]
  | cons x a ih => rw [List.cons_append, firstErr_cons, firstErr_cons, ih, and_assoc]

theorem firstErr_map {α : Type} (f : α → Option Err) (l : List α) :
    firstErr (l.map f) = none ↔ ∀ x ∈ l, f x = none := by
  induction l with
  | nil => simp [firstErr]
  | cons x l ih => rw [List.map_cons, firstErr_cons, ih, List.forall_mem_cons]

theorem firstErr_flatMap {α : Type} (f : α → List (Option Err)) (l : List α) :
    firstErr (l.flatMap f) = none ↔ ∀ x ∈ l, firstErr (f x) = none := by
  induction l with
  | nil => simp [firstErr]
  | cons x l ih => rw [List.flatMap_cons, firstErr_append, ih, List.forall_mem_cons]

theorem checkTime_eq_none (dt : DateTime) : checkTime dt = none ↔ timeEncodable dt = true := by
  unfold checkTime; split <;> simp [*]

theorem checkOid_eq_none (o : List Nat) : checkOid o = none ↔ oidOk o = true := by
  unfold checkOid; split <;> simp [*]

theorem checkIa5_eq_none (b : Bytes) : checkIa5 b = none ↔ isAscii b = true := by
  unfold checkIa5; split <;> simp [*]

theorem oids_of_checkName {dn : DistinguishedName} (h : checkName dn = none) :
    ∀ e ∈ dn.iter, oidOk e.1.oid = true := by
  unfold checkName at h
  rw [firstErr_map] at h
  intro e he
  have ht := h e he
  obtain ⟨t, v⟩ := e
  -- a custom attribute type was checked, the standard ones are fixed
  cases t <;> first | rfl | exact (checkOid_eq_none _).1 ht

/-- what `check_time` leaves: a UTC year that both time forms and `to_offset` accept -/
theorem utcYear_of_checkTime {dt : DateTime} (h : checkTime dt = none) :
    0 ≤ Theorems.C09.utcYear dt ∧ Theorems.C09.utcYear dt ≤ 9999 :=
  (timeEncodable_iff_utcYear dt).1 ((checkTime_eq_none dt).1 h)

theorem checkExtensionOids_eq_none (p : CertParams) :
    checkExtensionOids p = none ↔
      (∀ o v, SanType.otherName o v ∈ p.sans → checkOid o = none) ∧
      (∀ e ∈ p.ekus, checkOid e.oid = none) ∧ ∀ e ∈ p.customExts, checkOid e.oid = none := by
  unfold checkExtensionOids
  rw [firstErr_append, firstErr_append, firstErr_map, firstErr_map, firstErr_map, and_assoc]
  refine and_congr_left' ⟨fun h o v hs => h _ hs, fun h s hs => ?_⟩
  cases s with
  | otherName o v => exact h o v hs
  | _ => rfl

theorem certInvalid_eq_none (p : CertParams) (issuer : Issuer) :
    certInvalid p issuer = none ↔
      checkTime p.notBefore = none ∧ checkTime p.notAfter = none ∧ checkName issuer.dn = none ∧
      checkName p.dn = none ∧ checkExtensionOids p = none ∧
      (∀ nc, p.nameConstraints = some nc →
        ∀ t ∈ nc.permitted ++ nc.excluded, checkSubtree t = none) ∧
      ∀ dp ∈ p.crlDps, ∀ u ∈ dp.uris, checkIa5 u = none := by
  unfold certInvalid
  simp only [firstErr_append, firstErr_cons, firstErr_flatMap, firstErr_map, and_assoc]
  cases p.nameConstraints <;>
    simp [firstErr_nil, firstErr_map, firstErr_append, or_imp, forall_and]

theorem csrInvalid_eq_none (p : CertParams) (attrs : List Attribute) :
    csrInvalid p attrs = none ↔
      checkName p.dn = none ∧ checkExtensionOids p = none ∧ ∀ a ∈ attrs, checkOid a.oid = none := by
  unfold csrInvalid
  simp [firstErr_cons, firstErr_map]

theorem crlInvalid_eq_none (p : CrlParams) (issuer : Issuer) :
    crlInvalid p issuer = none ↔
      checkName issuer.dn = none ∧ (∀ idp, p.idp = some idp → ∀ u ∈ idp.uris, checkIa5 u = none) ∧
      checkTime p.thisUpdate = none ∧ checkTime p.nextUpdate = none ∧
      ∀ r ∈ p.revoked, checkTime r.revocationTime = none ∧
        ∀ d, r.invalidityDate = some d → checkTime d = none := by
  unfold crlInvalid
  simp only [firstErr_append, firstErr_cons, firstErr_flatMap, firstErr_nil, and_true, and_assoc]
  -- the two optional fields are left; the second stands under the binder of the entry
  refine and_congr_right fun _ => and_congr ?_ (and_congr_right fun _ => and_congr_right fun _ =>
    forall_congr' fun r => imp_congr_right fun _ => and_congr_right fun _ => ?_)
  · cases p.idp <;> simp [firstErr_nil, firstErr_map]
  · cases r.invalidityDate <;> simp [firstErr_cons, firstErr_nil]

theorem ncPanics_some (nc : NameConstraints) :
    ncPanics (some nc) = false ↔ (nc.isEmpty = false →
      nc.permitted.any subtreePanics = false ∧ nc.excluded.any subtreePanics = false) := by
  cases h : nc.isEmpty <;> simp [ncPanics, h]

theorem extensionsPanic_eq_false (p : CertParams) :
    extensionsPanic p = false ↔
      p.sans.any sanPanics = false ∧ p.ekus.any (fun e => !oidOk e.oid) = false ∧
      ncPanics p.nameConstraints = false ∧
      p.crlDps.any (fun dp => dp.uris.any (fun u => !isAscii u)) = false ∧
      p.customExts.any (fun e => !oidOk e.oid) = false := by
  simp only [extensionsPanic, Bool.or_eq_false_iff, and_assoc]

theorem certPanics_eq_false (p : CertParams) (issuer : Issuer) :
    certPanics p issuer = false ↔
      dnPanics issuer.dn = false ∧ timePanics p.notBefore = false ∧ timePanics p.notAfter = false ∧
      dnPanics p.dn = false ∧ (shouldWriteExts p = true → extensionsPanic p = false) := by
  unfold certPanics
  cases shouldWriteExts p <;> simp [and_assoc]

theorem csrExtRequestPanics_eq_false (p : CertParams) :
    csrExtRequestPanics p = false ↔
      p.sans.any sanPanics = false ∧ p.ekus.any (fun e => !oidOk e.oid) = false ∧
      p.customExts.any (fun e => !oidOk e.oid) = false := by
  simp only [csrExtRequestPanics, Bool.or_eq_false_iff, and_assoc]

theorem csrPanics_eq_false (p : CertParams) (attrs : List Attribute) :
    csrPanics p attrs = false ↔
      dnPanics p.dn = false ∧ (writeExtensionRequest p = true → csrExtRequestPanics p = false) ∧
      ∀ a ∈ attrs, oidOk a.oid = true := by
  unfold csrPanics
  cases writeExtensionRequest p <;> simp [and_assoc]

theorem crlPanics_eq_false (p : CrlParams) (issuer : Issuer) :
    crlPanics p issuer = false ↔
      dnPanics issuer.dn = false ∧ timePanics p.thisUpdate = false ∧ timePanics p.nextUpdate = false ∧
      p.revoked.any revokedPanics = false ∧ idpPanics p.idp = false := by
  simp only [crlPanics, Bool.or_eq_false_iff, and_assoc]

end Rcgen.Model
