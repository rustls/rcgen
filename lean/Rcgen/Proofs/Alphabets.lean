import Rcgen.Model.Strings
import Rcgen.Spec.Der
/-
  The link between C13 and C04: what a string-type constructor tests is the X.680 alphabet of
  the tag the value will be written under, as `Spec.canonical` checks it.
-/
namespace Rcgen.Proofs.Alphabets
open Rcgen.Model Rcgen.Spec

theorem quadsOk_of_words : ∀ (b : Bytes),
    (b.length % 4 = 0 ∧ ∀ v ∈ wordsOfBytes b, isScalar v = true) → quadsOk b = true
  | [], _ => rfl
  | [_], ⟨h, _⟩ => nomatch h
  | [_, _], ⟨h, _⟩ => nomatch h
  | [_, _, _], ⟨h, _⟩ => nomatch h
  | _ :: _ :: _ :: _ :: rest, ⟨h, hall⟩ =>
    Bool.and_eq_true_iff.2 ⟨hall _ List.mem_cons_self, quadsOk_of_words rest
      ⟨(Nat.add_mod_right rest.length 4).symm.trans h, fun v hv => hall v (List.mem_cons_of_mem _ hv)⟩⟩

theorem pairsOk_of_units : ∀ (b : Bytes),
    (b.length % 2 = 0 ∧ ∀ u ∈ unitsOfBytes b, isSurrogate u = false ∧ u < 65535) → pairsOk b = true
  | [], _ => rfl
  | [_], ⟨h, _⟩ => nomatch h
  | _ :: _ :: rest, ⟨h, hall⟩ =>
    have ⟨hs, hlt⟩ := hall _ List.mem_cons_self
    Bool.and_eq_true_iff.2 ⟨Bool.and_eq_true_iff.2 ⟨congrArg not hs, bne_iff_ne.2 (Nat.ne_of_lt hlt)⟩,
      pairsOk_of_units rest
        ⟨(Nat.add_mod_right rest.length 2).symm.trans h, fun v hv => hall v (List.mem_cons_of_mem _ hv)⟩⟩

end Rcgen.Proofs.Alphabets
