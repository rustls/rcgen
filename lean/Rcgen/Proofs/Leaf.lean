import Rcgen.Spec.Der
import Rcgen.Proofs.DerRoundTrip
/-
  Leaf inverses: what the RFC readers of Spec/Der.lean return on the content the model's leaf
  encoders of Base/Der.lean produce: OBJECT IDENTIFIER (base-128 groups) and INTEGER.  The facts
  are stated on content octets and on `Asn1.prim` nodes, the form `simp [asn1]` brings a written
  tree into (`asOid_oidContent`, `natOfIntContent_ofBytes`), and once more on the writer's
  constructors for the proofs that keep those folded (`asOid_oid`, `asNat_intOfNat`,
  `asNat_intOfBytes`, `asEnum_enumOfNat`).  The OID facts take `oidOk arcs = true` (yasna's
  assertion): hand that hypothesis, or `oidOk` for a literal, to `simp [asn1, …]`.
-/
namespace Rcgen.Proofs.Leaf
open Rcgen.Spec

attribute [asn1] asSeq asSet asOctets asBool asNat asEnum asBitString intContentOfNat ofBe_beBytes

/-- The high groups of `m`, read from accumulator 0, leave `m` in the accumulator.  The flag does
    not matter: `subIds` ignores it on a non-empty input (that is why a byte `b` follows). -/
theorem subIds_base128Hi : ∀ (f m : Nat), m ≤ f → ∀ (b : UInt8) (tail : Bytes) (p q : Bool),
    subIds (base128Hi f m ++ b :: tail) 0 p = subIds (b :: tail) m q
  | 0, m, hm, _, _, _, _ => by
    obtain rfl : m = 0 := by omega
    rfl
  | f + 1, m, hm, b, tail, p, q => by
    by_cases h0 : m = 0
    · subst h0; rfl
    · have hb := toNat_ofNat_lt (show 128 + m % 128 < 256 by omega)
      rw [base128Hi, if_neg h0, List.append_assoc, List.singleton_append,
        subIds_base128Hi f (m / 128) (by omega) _ _ p true]
      simp only [subIds, hb, show 128 + m % 128 ≥ 128 by omega, if_true]
      rw [show m / 128 * 128 + (128 + m % 128) % 128 = m by omega]

theorem subIds_base128 (n : Nat) (tail : Bytes) (p : Bool) :
    subIds (base128 n ++ tail) 0 p = (subIds tail 0 false).map (n :: ·) := by
  have hl := toNat_ofNat_lt (show n % 128 < 256 by omega)
  rw [base128, List.append_assoc, List.singleton_append,
    subIds_base128Hi n (n / 128) (Nat.div_le_self n 128) _ _ p false]
  simp only [subIds, hl, show ¬ n % 128 ≥ 128 by omega, if_false]
  rw [show n / 128 * 128 + n % 128 % 128 = n by omega]
  cases subIds tail 0 false <;> rfl

theorem subIds_flatMap_base128 (rest : List Nat) :
    subIds (rest.flatMap base128) 0 false = some rest := by
  induction rest with
  | nil => rfl
  | cons a r ih => rw [List.flatMap_cons, subIds_base128, ih]; rfl

/-- for every component list yasna's writer accepts -/
theorem oidArcs_oidContent (arcs : List Nat) (h : oidOk arcs = true) :
    oidArcs (oidContent arcs) = some arcs := by
  match arcs, h with
  | a :: b :: rest, h =>
    simp only [oidOk, Bool.and_eq_true, Bool.or_eq_true, decide_eq_true_eq] at h
    simp only [oidContent, oidArcs, subIds_base128, subIds_flatMap_base128, Option.map_some]
    -- the first sub-identifier is 40·a + b, with b < 40 unless a = 2
    obtain ⟨rfl, hb⟩ | ⟨rfl, hb⟩ | rfl : a = 0 ∧ b < 40 ∨ a = 1 ∧ b < 40 ∨ a = 2 := by omega
    · rw [if_pos (by omega), Nat.zero_mul, Nat.zero_add]
    · rw [if_neg (by omega), if_pos (by omega), Nat.add_sub_cancel_left]
    · rw [if_neg (by omega), if_neg (by omega), Nat.add_sub_cancel_left]

theorem base128Hi_zero (f : Nat) : base128Hi f 0 = [] := by
  cases f <;> rfl

/-- a byte with the continuation bit, not 0x80 where a group starts -/
theorem go_cont (r : Nat) (hr : r < 128) (tail : Bytes) (s : Bool) (h : s = true → r ≠ 0) :
    oidMinimal.go (UInt8.ofNat (128 + r) :: tail) s = oidMinimal.go tail false := by
  have hs : (s && 128 + r == 128) = false := by cases s <;> simp_all
  simp only [oidMinimal.go, toNat_ofNat_lt (show 128 + r < 256 by omega), hs]
  rw [decide_eq_false (by omega)]; rfl

theorem go_hi_false (f : Nat) : ∀ (m : Nat) (tail : Bytes),
    oidMinimal.go (base128Hi f m ++ tail) false = oidMinimal.go tail false := by
  induction f with
  | zero => intro m tail; rfl
  | succ f ih =>
    intro m tail
    rw [base128Hi]
    split
    · rfl
    · rw [List.append_assoc, ih, List.singleton_append, go_cont _ (by omega) _ _ (by simp)]

theorem go_hi_true : ∀ (f m : Nat), m ≤ f → m ≠ 0 → ∀ tail : Bytes,
    oidMinimal.go (base128Hi f m ++ tail) true = oidMinimal.go tail false
  | 0, m, hm, h0, _ => by omega
  | f + 1, m, hm, h0, tail => by
    rw [base128Hi, if_neg h0, List.append_assoc, List.singleton_append]
    by_cases hq : m / 128 = 0
    · -- the leading group: not zero because `m` is not
      rw [hq, base128Hi_zero, List.nil_append, go_cont _ (by omega) _ _ (by omega)]
    · rw [go_hi_true f (m / 128) (by omega) hq, go_cont _ (by omega) _ _ (by simp)]

theorem go_base128 (n : Nat) (tail : Bytes) :
    oidMinimal.go (base128 n ++ tail) true = oidMinimal.go tail true := by
  have step : ∀ s, oidMinimal.go (UInt8.ofNat (n % 128) :: tail) s = oidMinimal.go tail true := by
    intro s
    simp only [oidMinimal.go, toNat_ofNat_lt (show n % 128 < 256 by omega)]
    rw [show (n % 128 == 128) = false by simp; omega, decide_eq_true (by omega), Bool.and_false]; rfl
  rw [base128, List.append_assoc, List.singleton_append]
  by_cases hq : n / 128 = 0
  · rw [hq, base128Hi_zero, List.nil_append, step]
  · rw [go_hi_true n (n / 128) (Nat.div_le_self n 128) hq, step]

theorem go_flatMap (rest : List Nat) : oidMinimal.go (rest.flatMap base128) true = true := by
  induction rest with
  | nil => rfl
  | cons a r ih => rw [List.flatMap_cons, go_base128, ih]

theorem oidMinimal_oidContent (arcs : List Nat) (h : oidOk arcs = true) :
    oidMinimal (oidContent arcs) = true := by
  match arcs, h with
  | a :: b :: rest, _ =>
    have hne : (base128 (a * 40 + b) ++ rest.flatMap base128).isEmpty = false := by simp [base128]
    rw [oidMinimal, oidContent, go_base128, go_flatMap, hne]; rfl

@[asn1] theorem asOid_oidContent (arcs : List Nat) (h : oidOk arcs = true) :
    asOid (.prim 0 6 (oidContent arcs)) = some arcs := by
  rw [asOid, oidMinimal_oidContent arcs h, if_pos rfl, oidArcs_oidContent arcs h]

theorem asOid_oid (arcs : List Nat) (h : oidOk arcs = true) :
    asOid (Asn1.oid arcs) = some arcs := asOid_oidContent arcs h

theorem ofBe_cons_zero (bs : Bytes) : ofBe (0 :: bs) = ofBe bs := by
  simp [ofBe]

theorem ofBe_stripZeros (bs : Bytes) : ofBe (stripZeros bs) = ofBe bs := by
  induction bs with
  | nil => rfl
  | cons b r ih =>
    rw [stripZeros]
    split
    · next h => rw [ih, h, ofBe_cons_zero]
    · rfl

@[asn1] theorem natOfIntContent_ofBytes (bs : Bytes) :
    natOfIntContent (intContentOfBytes bs) = some (ofBe bs) := by
  rw [← ofBe_stripZeros bs, intContentOfBytes]
  cases stripZeros bs with
  | nil => rfl
  | cons b r =>
    simp only
    split
    · simp [natOfIntContent, ofBe_cons_zero]
    · next hlt => simp only [natOfIntContent, hlt, if_false]

theorem asNat_intOfBytes (bs : Bytes) : asNat (Asn1.intOfBytes bs) = some (ofBe bs) :=
  natOfIntContent_ofBytes bs

theorem asNat_intOfNat (n : Nat) : asNat (Asn1.intOfNat n) = some n := by simp [asn1]

theorem asEnum_enumOfNat (n : Nat) : asEnum (Asn1.enumOfNat n) = some n := by simp [asn1]

end Rcgen.Proofs.Leaf
