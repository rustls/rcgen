import Lean.Meta.Tactic.Simp.RegisterCommand
/-
  The simp set `asn1` states a goal about a tree the writers build in the terms of the readers:
  it unfolds the `Asn1.*` constructors to `Asn1.prim` / `Asn1.cons` nodes, computes `tagsOk` and
  evaluates the `as*` readers on such nodes (the attributes are given in DerRoundTrip, WF and Leaf;
  the rule for `asOid` is conditional on `oidOk`).
  Use `simp [asn1, …]` for tag and decode facts.  Canonicity is not in it: that is
  Proofs/Canonical.lean, whose rules match on the constructors this set unfolds.
-/
/-- the writers' ASN.1 constructors unfolded to `Asn1.prim` / `Asn1.cons` -/
register_simp_attr asn1
