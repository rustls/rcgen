import Rcgen.Model.Cert
import Rcgen.Proofs.Basic
/-
  What `prefixMask` (the `mask!` macro of `CidrSubnet`) writes, octet by octet, at every width
  that is a whole number of octets and for every prefix length: read off the bits of
  `!(MAX >> pfx)`.
-/
namespace Rcgen.Theorems.C02

/-- first `min n w` bits set, as `w/8` octets; in C02's name because C02 speaks in it, in this
    module because `prefixMask_eq_leadingOnes`, which C02 rests on, does too -/
def leadingOnes (w n : Nat) : Bytes :=
  (List.range (w / 8)).map (fun i =>
    let k := min n w - min (min n w) (8 * i)     -- bits of the mask left from byte i on
    UInt8.ofNat (if k ≥ 8 then 255 else 256 - 2 ^ (8 - k)))

end Rcgen.Theorems.C02

namespace Rcgen.Theorems.C12

/-- mask octet with `k` leading one bits; in C12's name and in this module for the same reason
    (`and_maskByte_eq`, `prefixMask_eq_maskBytes`) -/
def maskByte (k : Nat) : Nat := 256 - 2 ^ (8 - k)

end Rcgen.Theorems.C12

namespace Rcgen.Model
open Rcgen.Proofs (testBit_two_pow_sub_two_pow)

/-- bit `p` of `!(MAX >> pfx)` at width `w`: set iff `p` is among the top `pfx` positions -/
theorem testBit_prefixMaskVal (w pfx p : Nat) :
    ((2 ^ w - 1) - (if pfx < w then (2 ^ w - 1) >>> pfx else 0)).testBit p =
      (decide (p < w) && decide (w ≤ pfx + p)) := by
  generalize hv : (if pfx < w then (2 ^ w - 1) >>> pfx else 0) = v
  have hbit : v.testBit p = decide (pfx + p < w) := by
    subst hv; split
    · rw [Nat.testBit_shiftRight, Nat.testBit_two_pow_sub_one]
    · simp; omega
  have hlt : v < 2 ^ w := by
    subst hv; split
    · rw [Nat.shiftRight_eq_div_pow]
      exact Nat.lt_of_le_of_lt (Nat.div_le_self _ _)
        (Nat.sub_one_lt (Nat.ne_of_gt (Nat.two_pow_pos w)))
    · exact Nat.two_pow_pos w
  rw [Nat.sub_sub, Nat.add_comm 1, Nat.testBit_two_pow_sub_succ hlt, hbit]
  simp only [← decide_not, Nat.not_lt]

theorem prefixMask_length (w n : Nat) : (prefixMask w n).length = w / 8 := beBytesFixed_length _ _

/-- octet `i` of the mask of prefix length `n` has its top `min 8 (n - 8 i)` bits set -/
theorem prefixMask_octet (c n i : Nat) (h : i < (prefixMask (8 * c) n).length) :
    ((prefixMask (8 * c) n)[i]).toNat = 256 - 2 ^ (8 - min 8 (n - 8 * i)) := by
  have hi : i < c := by simpa [prefixMask_length] using h
  simp only [prefixMask, beBytesFixed_getElem, UInt8.toNat_ofNat',
    Nat.mul_div_cancel_left c (by decide : 0 < 8)]
  apply Nat.eq_of_testBit_eq
  intro b
  rw [Nat.testBit_mod_two_pow, Nat.testBit_div_two_pow, testBit_prefixMaskVal,
    testBit_two_pow_sub_two_pow 8 _ b (Nat.sub_le _ _), Bool.eq_iff_iff]
  simp only [Bool.and_eq_true, decide_eq_true_eq]
  omega

/-- the same count with the prefix length clipped to the width first, as `C02.leadingOnes` and
    `C12.bitsIn` spell it -/
theorem clipped_bits (c n i : Nat) (hi : i < c) :
    min 8 (min n (8 * c) - min (min n (8 * c)) (8 * i)) = min 8 (n - 8 * i) := by
  -- `x - min x y = x - y`
  rw [← Nat.sub_eq_sub_min]
  omega

theorem prefixMask_eq_map (c n : Nat) (f : Nat → UInt8)
    (hf : ∀ i < c, (f i).toNat = 256 - 2 ^ (8 - min 8 (n - 8 * i))) :
    prefixMask (8 * c) n = (List.range c).map f := by
  apply List.ext_getElem (by simp [prefixMask_length])
  intro i h₁ h₂
  rw [List.getElem_map, List.getElem_range, ← UInt8.toNat_inj, prefixMask_octet, hf]
  simpa using h₂

theorem prefixMask_eq_leadingOnes (c n : Nat) :
    prefixMask (8 * c) n = Theorems.C02.leadingOnes (8 * c) n := by
  unfold Theorems.C02.leadingOnes
  rw [Nat.mul_div_cancel_left c (by decide : 0 < 8)]
  refine prefixMask_eq_map c n _ fun i hi => ?_
  rw [← clipped_bits c n i hi]
  generalize min n (8 * c) - min (min n (8 * c)) (8 * i) = k
  have := Nat.two_pow_pos (8 - k)
  rw [toNat_ofNat_lt (by split <;> omega)]
  split
  · rw [Nat.min_eq_left ‹_›]
  · rw [Nat.min_eq_right (by omega)]

theorem and_maskByte_eq (x : Nat) (hx : x < 2 ^ 8) (k : Nat) :
    x &&& Theorems.C12.maskByte k = 2 ^ (8 - k) * (x / 2 ^ (8 - k)) := by
  apply Nat.eq_of_testBit_eq
  intro b
  rw [Nat.testBit_and, Theorems.C12.maskByte, testBit_two_pow_sub_two_pow 8 _ b (Nat.sub_le _ _),
    Nat.testBit_two_pow_mul, Nat.testBit_div_two_pow]
  by_cases hb : 8 - k ≤ b
  · rw [Nat.sub_add_cancel hb]
    by_cases h8 : b < 8
    · simp [hb, h8]
    · simp [h8, Nat.testBit_lt_two_pow (Nat.lt_of_lt_of_le hx
        (Nat.pow_le_pow_right (by decide) (Nat.le_of_not_lt h8)))]
  · simp [hb]

theorem prefixMask_eq_maskBytes (c n : Nat) :
    prefixMask (8 * c) n = (List.range c).map (fun i =>
      UInt8.ofNat (Theorems.C12.maskByte (min 8 (min n (8 * c) - min (min n (8 * c)) (8 * i))) % 256)) := by
  refine prefixMask_eq_map c n _ fun i hi => ?_
  have := Nat.two_pow_pos (8 - min 8 (n - 8 * i))
  rw [clipped_bits c n i hi, UInt8.toNat_ofNat', Theorems.C12.maskByte]
  omega

end Rcgen.Model
