import Rcgen.Theorems.C03
import Rcgen.Proofs.Time
import Rcgen.Proofs.KeyUsage
/-
  C17 — importing a CA certificate recovers the fields it claims to recover.
  Stated field by field on the glue (`Model/Import.lean`) applied to the content an RFC 5280
  decoder yields for a generated certificate (`Spec.req*`, the "requested content" of C02):
  import ∘ requested = identity on each supported field.  That a real certificate decodes to
  the requested content is C02's business.  Also the converse on alternative names
  (`importSans_inv`, `reqSan_injective`), which the parsing of requests uses.
-/
namespace Rcgen.Proofs.ImportFields
open Rcgen.Model Rcgen.Spec

theorem key_usage_reversal (kus : List KeyUsage) :
    importKeyUsages (reqKeyUsageBits kus) = KeyUsage.all.filter (fun k => kus.contains k) :=
  List.filter_congr fun k _ => KeyUsage.reqKeyUsageBits_contains kus k

theorem serial_recovered (n : Nat) : ofBe (serialBytesOfNat n) = n := by
  unfold serialBytesOfNat
  split
  · rename_i h; subst h; rfl
  · exact ofBe_beBytes n

theorem validity_recovered (t : Int) : (dateTimeOfEpoch t).epochSeconds = t := by
  -- with offset and nanoseconds zero, `epochSeconds` of the rebuilt date-time is the very sum
  -- that `epochOfFields` returns for the fields of `utcOfEpoch t`
  have h := epochOfFields_utcOfEpoch t
  unfold epochOfFields at h
  split at h
  · injection h with h
    unfold DateTime.epochSeconds dateTimeOfEpoch
    simp only
    omega
  · cases h

/-- `oid_components` refuses no identifier whose components fit 64 bits -/
theorem components_fit {oid : List Nat} (h : ∀ x ∈ oid, x < 2 ^ 64) :
    oid.any (fun x => decide (x ≥ 2 ^ 64)) = false :=
  List.any_eq_false.2 fun x hx => by simpa using h x hx

theorem san_recovered (s : SanType)
    (hip : ∀ o, s = .ip o → o.length = 4 ∨ o.length = 16)
    (hother : ∀ oid v, s = .otherName oid v → utf8Valid v = true ∧ ∀ x ∈ oid, x < 2 ^ 64) :
    importSan (reqSan s) = .ok s := by
  cases s with
  | rfc822 b => rfl
  | dns b => rfl
  | uri b => rfl
  | ip o =>
    have := hip o rfl
    simp only [reqSan, importSan]
    rcases this with h | h <;> simp [h]
  | otherName oid v =>
    obtain ⟨h1, h2⟩ := hother oid v rfl
    simp [reqSan, importSan, h1, components_fit h2]

theorem sans_recovered (sans : List SanType)
    (hip : ∀ o, SanType.ip o ∈ sans → o.length = 4 ∨ o.length = 16)
    (hother : ∀ oid v, SanType.otherName oid v ∈ sans → utf8Valid v = true ∧ ∀ x ∈ oid, x < 2 ^ 64) :
    importSans (sans.map reqSan) = .ok sans := by
  induction sans with
  | nil => rfl
  | cons s r ih =>
    have h1 := san_recovered s (fun o e => hip o (e ▸ List.mem_cons_self))
      (fun oid v e => hother oid v (e ▸ List.mem_cons_self))
    have h2 := ih (fun o ho => hip o (List.mem_cons_of_mem _ ho))
      (fun oid v ho => hother oid v (List.mem_cons_of_mem _ ho))
    simp only [List.map_cons, importSans, h1, h2]

theorem importSan_inv (g : GName) (s : SanType) (h : importSan g = .ok s) : reqSan s = g := by
  cases g with
  | rfc822 b | dns b | uri b => cases h; rfl
  | ip o =>
    simp only [importSan] at h
    split at h
    · cases h; rfl
    · cases h
  | dirName n => cases h
  | other oid tag c =>
    simp only [importSan] at h
    split at h
    · cases h
    split at h
    · rename_i ht
      split at h
      · cases h; simp [reqSan, ht]
      · cases h
    · cases h

theorem importSans_inv (names : List GName) (s : List SanType) (h : importSans names = .ok s) :
    s.map reqSan = names := by
  induction names generalizing s with
  | nil => cases h; rfl
  | cons g rest ih =>
    simp only [importSans] at h
    split at h
    · rename_i a r h1 h2
      cases h
      rw [List.map_cons, importSan_inv g a h1, ih r h2]
    · cases h
    · cases h

theorem reqSan_injective {a b : SanType} (h : reqSan a = reqSan b) : a = b := by
  cases a <;> cases b <;> cases h <;> rfl

/-- the name-constraint subtrees `subtrees_recovered` covers: `convert_x509_general_subtrees`
    skips an IP entry whose address or mask has not the family's size; directory names are left
    out -/
def subtreeSupported : GeneralSubtree → Bool
  | .rfc822 _ | .dns _ => true
  | .ip (.v4 a m) => a.length == 4 && m.length == 4
  | .ip (.v6 a m) => a.length == 16 && m.length == 16
  | .directoryName _ => false

theorem subtrees_recovered (ts : List GeneralSubtree) (h : ts.all subtreeSupported = true) :
    importSubtrees (ts.map (reqSubtree enumOf)) = .ok ts := by
  induction ts with
  | nil => rfl
  | cons t ts ih =>
    simp only [List.all_cons, Bool.and_eq_true] at h
    have ih' := ih h.2
    simp only [List.map_cons, importSubtrees, ih']
    cases t with
    | rfc822 b => rfl
    | dns b => rfl
    | directoryName dn => simp [subtreeSupported] at h
    | ip c =>
      cases c with
      | v4 a m =>
        have ha : a.length = 4 ∧ m.length = 4 := by simpa [subtreeSupported] using h.1
        simp [reqSubtree, ha.1, ha.2]
      | v6 a m =>
        have ha : a.length = 16 ∧ m.length = 16 := by simpa [subtreeSupported] using h.1
        simp [reqSubtree, ha.1, ha.2]

theorem mem_importEkus (oids : List (List Nat)) (e : Eku) :
    e ∈ importEkus oids ↔ e ∈ stdEkus ∧ e.oid ∈ oids := by
  simp only [importEkus, List.mem_filter, List.contains_eq_mem, decide_eq_true_eq]

theorem ekus_recovered (ekus : List Eku) (e : Eku) :
    e ∈ importEkus (ekus.map rfcEkuOid) ↔ (e ∈ stdEkus ∧ ∃ x ∈ ekus, rfcEkuOid x = e.oid) := by
  rw [mem_importEkus, List.mem_map]

/-- x509-parser's `get_extension_unique` where an identifier occurs at most once -/
theorem uniqueExt_of_le_one (c : TbsCert) (o : List Nat)
    (h : (c.exts.filter (fun e => e.oid == o)).length ≤ 1) :
    uniqueExt c o = .ok (c.exts.find? (fun e => e.oid == o)) := by
  unfold uniqueExt findExts
  rw [← List.head?_filter]
  generalize c.exts.filter (fun e => e.oid == o) = l at h ⊢
  match l, h with
  | [], _ => rfl
  | [_], _ => rfl
  | _ :: _ :: _, h => exact absurd h (by simp)

theorem ski_captured (crypto : Bool) (c : TbsCert) (b : Bytes) (rest : List Bytes)
    (h : c.exts.filterMap skiOf = b :: rest) : importKid crypto c = .ok (.preSpecified b) :=
  Theorems.C03.import_captures_ski crypto c b rest h

theorem reissue_key_usages (kus : List KeyUsage) :
    reqKeyUsageBits (importKeyUsages (reqKeyUsageBits kus)) = reqKeyUsageBits kus := by
  rw [key_usage_reversal]
  unfold reqKeyUsageBits
  apply List.filter_congr
  intro i _
  rw [Bool.eq_iff_iff]
  simp only [List.any_eq_true, List.mem_filter, List.contains_eq_mem, decide_eq_true_eq, beq_iff_eq]
  constructor
  · intro ⟨k, ⟨_, hk⟩, he⟩; exact ⟨k, hk, he⟩
  · intro ⟨k, hk, he⟩
    exact ⟨k, ⟨KeyUsage.mem_all k, hk⟩, he⟩

example : importKeyUsages (reqKeyUsageBits [.crlSign, .digitalSignature, .crlSign]) =
    [.digitalSignature, .crlSign] := by decide
example : (dateTimeOfEpoch 1700000000).epochSeconds = 1700000000 := validity_recovered _

end Rcgen.Proofs.ImportFields
