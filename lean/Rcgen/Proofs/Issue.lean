import Rcgen.Model.Sign
import Rcgen.Proofs.Basic
/-
  What a successful return of each generation entry point tells: every refusal and panic guard
  was passed, and the signer was called once, on the encoding of the to-be-signed tree, whose
  answer sits in the artefact.  And what a panic tells: validation had passed and one of the
  writers' assertions was reached (C10 shows that the two cannot both hold).
-/
namespace Rcgen.Proofs.Issue
open Rcgen.Model

theorem signDer_ok {alg : SigAlg} {sign : Signer} {tbs t : Asn1}
    (h : signDer alg sign tbs = .ok t) :
    ∃ sig, sign (encode tbs) = .ok sig ∧ t = .seq [tbs, algIdent alg, .bitStringOctets sig] := by
  unfold signDer at h
  split at h
  · next sig hs => exact ⟨sig, hs, (Except.ok.inj h).symm⟩
  · cases h

/- Each entry point is a ladder of guards that refuse (`.err`) or panic, with the signed tree at
   the bottom: a result of another shape passed the guard (`ite_else_of_ne`). -/

theorem issueCert_ok {cfg : Config} {H : Hashes} {p : CertParams} {s : PubKey} {i : Issuer}
    {sign : Signer} {t : Asn1} (h : issueCert cfg H p s i sign = .ok t) :
    certInvalid p i = none ∧ (!cfg.crypto && p.serial.isNone) = false ∧ certPanics p i = false ∧
      ∃ sig, sign (encode (tbsCertificate H p s i)) = .ok sig ∧
        t = .seq [tbsCertificate H p s i, algIdent i.key.alg, .bitStringOctets sig] := by
  unfold issueCert at h
  split at h
  · cases h
  next h1 =>
  obtain ⟨h2, h⟩ := ite_else_of_ne h nofun
  obtain ⟨h3, h⟩ := ite_else_of_ne h nofun
  split at h
  · next h4 =>
    cases h
    exact ⟨h1, Bool.eq_false_iff.2 h2, Bool.eq_false_iff.2 h3, signDer_ok h4⟩
  · cases h

theorem serializeRequest_ok {p : CertParams} {s : PubKey} {attrs : List Attribute} {sign : Signer}
    {t : Asn1} (h : serializeRequest p s attrs sign = .ok t) :
    csrUnsupported p = false ∧ csrInvalid p attrs = none ∧ csrPanics p attrs = false ∧
      ∃ sig, sign (encode (csrInfo p s attrs)) = .ok sig ∧
        t = .seq [csrInfo p s attrs, algIdent s.alg, .bitStringOctets sig] := by
  unfold serializeRequest at h
  obtain ⟨h1, h⟩ := ite_else_of_ne h nofun
  split at h
  · cases h
  next h2 =>
  obtain ⟨h3, h⟩ := ite_else_of_ne h nofun
  split at h
  · next h4 =>
    cases h
    exact ⟨Bool.eq_false_iff.2 h1, h2, Bool.eq_false_iff.2 h3, signDer_ok h4⟩
  · cases h

theorem issueCrl_ok {H : Hashes} {p : CrlParams} {i : Issuer} {sign : Signer} {t : Asn1}
    (h : issueCrl H p i sign = .ok t) :
    crlNextUpdateInvalid p = false ∧ crlIssuerNotSigner i = false ∧ crlInvalid p i = none ∧
      crlPanics p i = false ∧
      ∃ sig, sign (encode (tbsCertList H p i)) = .ok sig ∧
        t = .seq [tbsCertList H p i, algIdent i.key.alg, .bitStringOctets sig] := by
  unfold issueCrl at h
  obtain ⟨h1, h⟩ := ite_else_of_ne h nofun
  obtain ⟨h2, h⟩ := ite_else_of_ne h nofun
  split at h
  · cases h
  next h3 =>
  obtain ⟨h4, h⟩ := ite_else_of_ne h nofun
  split at h
  · next h5 =>
    cases h
    exact ⟨Bool.eq_false_iff.2 h1, Bool.eq_false_iff.2 h2, h3, Bool.eq_false_iff.2 h4,
      signDer_ok h5⟩
  · cases h

/-! No artefact without a successful call of the signer on the to-be-signed bytes. -/

theorem issueCert_ne_ok {cfg : Config} {H : Hashes} {p : CertParams} {s : PubKey} {i : Issuer}
    {sign : Signer} {e : Err} (he : sign (encode (tbsCertificate H p s i)) = .error e) (t : Asn1) :
    issueCert cfg H p s i sign ≠ .ok t :=
  fun h => let ⟨_, _, _, _, hs, _⟩ := issueCert_ok h; nomatch he.symm.trans hs

theorem serializeRequest_ne_ok {p : CertParams} {s : PubKey} {attrs : List Attribute}
    {sign : Signer} {e : Err} (he : sign (encode (csrInfo p s attrs)) = .error e) (t : Asn1) :
    serializeRequest p s attrs sign ≠ .ok t :=
  fun h => let ⟨_, _, _, _, hs, _⟩ := serializeRequest_ok h; nomatch he.symm.trans hs

theorem issueCrl_ne_ok {H : Hashes} {p : CrlParams} {i : Issuer} {sign : Signer} {e : Err}
    (he : sign (encode (tbsCertList H p i)) = .error e) (t : Asn1) :
    issueCrl H p i sign ≠ .ok t :=
  fun h => let ⟨_, _, _, _, _, hs, _⟩ := issueCrl_ok h; nomatch he.symm.trans hs

theorem issueCert_panic {cfg : Config} {H : Hashes} {p : CertParams} {s : PubKey} {i : Issuer}
    {sign : Signer} {site : String} (h : issueCert cfg H p s i sign = .panic site) :
    certInvalid p i = none ∧ certPanics p i = true := by
  unfold issueCert at h
  split at h
  · cases h
  next h1 =>
  obtain ⟨-, h⟩ := ite_else_of_ne h nofun
  split at h
  · next h3 => exact ⟨h1, h3⟩
  · split at h <;> cases h

theorem serializeRequest_panic {p : CertParams} {s : PubKey} {attrs : List Attribute}
    {sign : Signer} {site : String} (h : serializeRequest p s attrs sign = .panic site) :
    csrInvalid p attrs = none ∧ csrPanics p attrs = true := by
  unfold serializeRequest at h
  obtain ⟨-, h⟩ := ite_else_of_ne h nofun
  split at h
  · cases h
  next h2 =>
  split at h
  · next h3 => exact ⟨h2, h3⟩
  · split at h <;> cases h

theorem issueCrl_panic {H : Hashes} {p : CrlParams} {i : Issuer} {sign : Signer} {site : String}
    (h : issueCrl H p i sign = .panic site) : crlInvalid p i = none ∧ crlPanics p i = true := by
  unfold issueCrl at h
  obtain ⟨-, h⟩ := ite_else_of_ne h nofun
  obtain ⟨-, h⟩ := ite_else_of_ne h nofun
  split at h
  · cases h
  next h3 =>
  split at h
  · next h4 => exact ⟨h3, h4⟩
  · split at h <;> cases h

end Rcgen.Proofs.Issue
