import Rcgen.Proofs.CertDecode
import Rcgen.Model.Csr
/-
  Typed decode of a whole certificationRequestInfo.  Two things are new with respect to
  certificates: caller-supplied attribute values are embedded as raw DER (so the generic round
  trip is applied to a raw-free tree with the same encoding), and the attributes are a SET OF,
  written in sorted order (so the decoded list is a permutation of the requested one).
-/
namespace Rcgen.Proofs.CsrDecode
open Rcgen.Model Rcgen.Spec Rcgen.Proofs.Leaf Rcgen.Proofs.X509 Rcgen.Proofs.CertDecode

mutual
/-- `Resolves t t'`: `t'` is `t` with every raw node replaced by a tree that encodes to it -/
inductive Resolves : Asn1 → Asn1 → Prop
  | prim (c n : Nat) (b : Bytes) : Resolves (.prim c n b) (.prim c n b)
  | cons (c n : Nat) (ks ks' : List Asn1) : ResolvesList ks ks' → Resolves (.cons c n ks) (.cons c n ks')
  | raw (b : Bytes) (t : Asn1) : encode t = b → Resolves (.raw b) t
inductive ResolvesList : List Asn1 → List Asn1 → Prop
  | nil : ResolvesList [] []
  | cons (t t' : Asn1) (ts ts' : List Asn1) : Resolves t t' → ResolvesList ts ts' →
      ResolvesList (t :: ts) (t' :: ts')
end

mutual
theorem Resolves.encode_eq {t t' : Asn1} (h : Resolves t t') : encode t = encode t' := by
  cases h with
  | prim c n b => rfl
  | cons c n ks ks' hk =>
    have := ResolvesList.encodeList_eq hk
    simp only [encode, this]
  | raw b t ht => simp only [encode, ht]
theorem ResolvesList.encodeList_eq {ts ts' : List Asn1} (h : ResolvesList ts ts') :
    encodeList ts = encodeList ts' := by
  cases h with
  | nil => rfl
  | cons t t' ts ts' h1 h2 =>
    simp only [encodeList, Resolves.encode_eq h1, ResolvesList.encodeList_eq h2]
end

mutual
theorem resolves_refl (t : Asn1) (h : tagsOk t = true) : Resolves t t := by
  match t with
  | .prim c n b => exact .prim c n b
  | .cons c n ks =>
    simp only [tagsOk, Bool.and_eq_true] at h
    exact .cons c n ks ks (resolvesList_refl ks h.2)
  | .raw b => simp [tagsOk] at h
theorem resolvesList_refl (ts : List Asn1) (h : tagsOkList ts = true) : ResolvesList ts ts := by
  match ts with
  | [] => exact .nil
  | t :: ts =>
    simp only [tagsOkList, Bool.and_eq_true] at h
    exact .cons t t ts ts (resolves_refl t h.1) (resolvesList_refl ts h.2)
end

theorem resolvesList_map (l : List Asn1) (g : Asn1 → Asn1) (H : ∀ x ∈ l, Resolves x (g x)) :
    ResolvesList l (l.map g) := by
  induction l with
  | nil => exact .nil
  | cons a l ih =>
    exact .cons _ _ _ _ (H a (by simp)) (ih (fun x hx => H x (by simp [hx])))

/-- resolve the raw value of a caller attribute with `f` -/
def resAttr (f : Bytes → Asn1) : Asn1 → Asn1
  | .cons 0 16 [o, .raw b] => .cons 0 16 [o, f b]
  | x => x

/-- what an RFC 2986 reader obtains from an attribute node: the type and the value bytes -/
def semAttr : Asn1 → CsrAttr
  | .cons 0 16 [o, v] => ⟨(asOid o).getD [], encode v⟩
  | _ => ⟨[], []⟩

/-- the witness that each caller-supplied value is the DER encoding of a SET -/
structure ValuesAreDer (attrs : List Attribute) (vals : Attribute → Asn1) : Prop where
  shape : ∀ a ∈ attrs, ∃ k, vals a = .cons 0 17 k
  tags : ∀ a ∈ attrs, tagsOk (vals a) = true
  enc : ∀ a ∈ attrs, encode (vals a) = a.values

/-- the tree for a raw value, found through its bytes: once the set is sorted a node does not
    say which attribute it came from -/
def byBytes (attrs : List Attribute) (vals : Attribute → Asn1) (b : Bytes) : Asn1 :=
  match attrs.find? (fun a => a.values == b) with
  | some a => vals a
  | none => .raw b

theorem byBytes_spec (attrs : List Attribute) (vals : Attribute → Asn1) (a : Attribute)
    (ha : a ∈ attrs) :
    ∃ a' ∈ attrs, byBytes attrs vals a.values = vals a' ∧ a'.values = a.values := by
  unfold byBytes
  cases hf : attrs.find? (fun x => x.values == a.values) with
  | none =>
    have := List.find?_eq_none.1 hf a ha
    simp at this
  | some a' =>
    have hm := List.mem_of_find?_eq_some hf
    have hp := List.find?_some hf
    exact ⟨a', hm, rfl, by simpa using hp⟩

theorem resAttr_attrNode (attrs : List Attribute) (vals : Attribute → Asn1) (a : Attribute)
    (ha : a ∈ attrs) :
    ∃ a' ∈ attrs, resAttr (byBytes attrs vals) (attrNode a) = .seq [.oid a.oid, vals a'] ∧
      a'.values = a.values := by
  obtain ⟨a', ha', hb, hv⟩ := byBytes_spec attrs vals a ha
  exact ⟨a', ha', by simp only [attrNode, Asn1.seq, resAttr, hb], hv⟩

theorem resolves_attrNode (attrs : List Attribute) (vals : Attribute → Asn1)
    (h : ValuesAreDer attrs vals) (a : Attribute) (ha : a ∈ attrs) :
    Resolves (attrNode a) (resAttr (byBytes attrs vals) (attrNode a)) := by
  obtain ⟨a', ha', hr, hv⟩ := resAttr_attrNode attrs vals a ha
  rw [hr]
  refine .cons _ _ _ _ (.cons _ _ _ _ (.prim _ _ _) (.cons _ _ _ _ (.raw _ _ ?_) .nil))
  rw [h.enc a' ha', hv]

theorem decode_resAttr_attrNode (attrs : List Attribute) (vals : Attribute → Asn1)
    (h : ValuesAreDer attrs vals) (a : Attribute) (ha : a ∈ attrs) (ho : oidOk a.oid = true) :
    decodeCsrAttr (resAttr (byBytes attrs vals) (attrNode a)) = some ⟨a.oid, a.values⟩ := by
  obtain ⟨a', ha', hr, hv⟩ := resAttr_attrNode attrs vals a ha
  obtain ⟨k, hk⟩ := h.shape a' ha'
  simp only [hr, Asn1.seq, hk, decodeCsrAttr, asOid_oid a.oid ho]
  rw [← hk, h.enc a' ha', hv]

theorem tagsOk_resAttr_attrNode (attrs : List Attribute) (vals : Attribute → Asn1)
    (h : ValuesAreDer attrs vals) (a : Attribute) (ha : a ∈ attrs) :
    tagsOk (resAttr (byBytes attrs vals) (attrNode a)) = true := by
  obtain ⟨a', ha', hr, _⟩ := resAttr_attrNode attrs vals a ha
  simp [hr, asn1, h.tags a' ha']

/-- what an RFC 5280 reader obtains from the requested extensions, in the writers' order -/
def modelCsrExts (i : CsrInputs) : List Ext :=
  kuRow i.p.keyUsages ++ sanRow i.p ++ ekuRow i.p.ekus ++
  i.p.customExts.map (fun e => ⟨e.oid, e.critical, .opaque e.content⟩)

theorem modelCsrExts_eq_nil_iff (i : CsrInputs) :
    modelCsrExts i = [] ↔ writeExtensionRequest i.p = false := by
  simp only [modelCsrExts, kuRow, sanRow, ekuRow, List.append_eq_nil_iff, ite_nil_left_iff,
    List.map_eq_nil_iff, writeExtensionRequest, Bool.or_eq_false_iff, Bool.not_eq_false',
    List.isEmpty_iff, and_assoc]

theorem csrExts_decode (i : CsrInputs) (hw : WFList (requestedExtensions i.p))
    (hx : csrExtRequestPanics i.p = false)
    (hc : ∀ e ∈ i.p.customExts, e.oid ∉ knownOids) :
    (requestedExtensions i.p).mapM decodeExt = some (modelCsrExts i) := by
  obtain ⟨hsan, heku, hcu⟩ := (csrExtRequestPanics_eq_false _).1 hx
  exact mapM_append_wf (mapM_append_wf (mapM_append_wf (keyUsageExt_decodes _)
    (sanExt_decodes i.p hsan)) (ekuExt_decodes _ heku)) (fun _ => customExts_decode _ hcu hc) hw

theorem tagsOk_requested (p : CertParams) : (requestedExtensions p).all tagsOk = true := by
  simp only [requestedExtensions, keyUsageExt, sanExt, ekuExt, List.all_append, tagsOk_ite_ext,
    tagsOk_customExts, Bool.and_self]

theorem tagsOk_extReqAttr (p : CertParams) : tagsOk (extensionRequestAttr p) = true := by
  simp [extensionRequestAttr, asn1, tagsOk_requested]

theorem resAttr_extReq (f : Bytes → Asn1) (p : CertParams) :
    resAttr f (extensionRequestAttr p) = extensionRequestAttr p := by
  simp [extensionRequestAttr, Asn1.seq, Asn1.set, Asn1.oid, resAttr]

-- the value of `extensionRequestAttr`, an inline subterm there
def extReqValue (p : CertParams) : Asn1 := .set [.seq (requestedExtensions p)]

theorem extensionRequestAttr_eq (p : CertParams) :
    extensionRequestAttr p = .seq [.oid oidExtensionRequest, extReqValue p] := rfl

theorem decode_extReqValue (i : CsrInputs) (hw : (extReqValue i.p).WF)
    (hx : csrExtRequestPanics i.p = false)
    (hc : ∀ e ∈ i.p.customExts, e.oid ∉ knownOids) :
    decodeExtensionRequest (encode (extReqValue i.p)) = some (modelCsrExts i) := by
  unfold decodeExtensionRequest
  rw [decodeAll_encode _ hw]
  exact csrExts_decode i (hw.kid (t := .seq (requestedExtensions i.p)) (List.mem_singleton.2 rfl)).kids
    hx hc

theorem mem_csrAttributes {p : CertParams} {attrs : List Attribute} {x : Asn1}
    (h : x ∈ csrAttributes p attrs) :
    (writeExtensionRequest p = true ∧ x = extensionRequestAttr p) ∨ ∃ a ∈ attrs, x = attrNode a := by
  unfold csrAttributes at h
  rcases List.mem_append.1 h with h | h
  · split at h
    · next hw => exact .inl ⟨hw, List.mem_singleton.1 h⟩
    · cases h
  · right
    obtain ⟨a, ha, rfl⟩ := List.mem_map.1 h
    exact ⟨a, ha, rfl⟩

theorem sem_attrNode (a : Attribute) (ho : oidOk a.oid = true) :
    semAttr (attrNode a) = ⟨a.oid, a.values⟩ := by
  simp [attrNode, Asn1.seq, semAttr, asOid_oid a.oid ho, encode]

theorem sem_extReq (p : CertParams) :
    semAttr (extensionRequestAttr p) = ⟨oidExtensionRequest, encode (extReqValue p)⟩ := by
  simp [extensionRequestAttr_eq, Asn1.seq, semAttr, asOid_oid oidExtensionRequest (by decide)]

theorem decode_extReq (p : CertParams) :
    decodeCsrAttr (extensionRequestAttr p) =
      some ⟨oidExtensionRequest, encode (extReqValue p)⟩ := by
  simp [extensionRequestAttr_eq, extReqValue, Asn1.seq, Asn1.set, decodeCsrAttr,
    asOid_oid oidExtensionRequest (by decide)]

/-- the record an RFC 2986 reader obtains from the certificationRequestInfo -/
def modelCsr (i : CsrInputs) : CsrInfo :=
  { version := 0, subject := reqName i.p.dn.iter, spki := spkiDer i.subject,
    attrs := (sortByEncoding (csrAttributes i.p i.attrs)).map semAttr }

/-- the raw-free twin of the certificationRequestInfo -/
def twinInfo (i : CsrInputs) (vals : Attribute → Asn1) : Asn1 :=
  .seq [.intOfNat 0, writeDistinguishedName i.p.dn, spkiNode i.subject,
    .cons 2 0 ((sortByEncoding (csrAttributes i.p i.attrs)).map (resAttr (byBytes i.attrs vals)))]

theorem res_elem (i : CsrInputs) (vals : Attribute → Asn1) (hv : ValuesAreDer i.attrs vals) :
    ∀ x ∈ sortByEncoding (csrAttributes i.p i.attrs),
      Resolves x (resAttr (byBytes i.attrs vals) x) ∧ tagsOk (resAttr (byBytes i.attrs vals) x) = true := by
  intro x hx
  rcases mem_csrAttributes (List.mem_mergeSort.1 hx) with ⟨-, rfl⟩ | ⟨a, ha, rfl⟩
  · rw [resAttr_extReq]; exact ⟨resolves_refl _ (tagsOk_extReqAttr _), tagsOk_extReqAttr _⟩
  · exact ⟨resolves_attrNode i.attrs vals hv a ha, tagsOk_resAttr_attrNode i.attrs vals hv a ha⟩

theorem twinInfo_resolves (i : CsrInputs) (vals : Attribute → Asn1) (hv : ValuesAreDer i.attrs vals) :
    Resolves (csrInfo i.p i.subject i.attrs) (twinInfo i vals) :=
  .cons _ _ _ _ (.cons _ _ _ _ (.prim _ _ _)
    (.cons _ _ _ _ (resolves_refl _ (tagsOk_dn _)) (.cons _ _ _ _ (resolves_refl _ (tagsOk_spki _))
    (.cons _ _ _ _ (.cons _ _ _ _ (resolvesList_map _ _ fun x hx => (res_elem i vals hv x hx).1)) .nil))))

theorem tagsOk_twinInfo (i : CsrInputs) (vals : Attribute → Asn1) (hv : ValuesAreDer i.attrs vals) :
    tagsOk (twinInfo i vals) = true := by
  have hk : (sortByEncoding (csrAttributes i.p i.attrs)).all
      (tagsOk ∘ resAttr (byBytes i.attrs vals)) = true :=
    List.all_eq_true.2 fun x hx => (res_elem i vals hv x hx).2
  simp [twinInfo, asn1, tagsOk_dn, tagsOk_spki, hk]

theorem csr_decodes (i : CsrInputs) (vals : Attribute → Asn1) (hv : ValuesAreDer i.attrs vals)
    (hnp : csrPanics i.p i.attrs = false)
    (hsize : (encode (csrInfo i.p i.subject i.attrs)).length < 256 ^ 126) :
    decodeCsrInfo (encode (csrInfo i.p i.subject i.attrs)) = some (modelCsr i) := by
  obtain ⟨hdn, -, hoids⟩ := (csrPanics_eq_false _ _).1 hnp
  have hres := twinInfo_resolves i vals hv
  have hwf : (twinInfo i vals).WF :=
    wf_of_tagsOk _ (tagsOk_twinInfo i vals hv) (by rw [← hres.encode_eq]; exact hsize)
  unfold decodeCsrInfo
  rw [hres.encode_eq, decodeAll_encode _ hwf]
  have hdec : ((sortByEncoding (csrAttributes i.p i.attrs)).map (resAttr (byBytes i.attrs vals))).mapM
      decodeCsrAttr = some ((sortByEncoding (csrAttributes i.p i.attrs)).map semAttr) := by
    refine mapM_map_some _ _ _ _ (fun x hx => ?_)
    rcases mem_csrAttributes (List.mem_mergeSort.1 hx) with ⟨-, rfl⟩ | ⟨a, ha, rfl⟩
    · rw [resAttr_extReq, sem_extReq, decode_extReq]
    · rw [decode_resAttr_attrNode i.attrs vals hv a ha (hoids a ha), sem_attrNode a (hoids a ha)]
  have n1 := decodeName_write i.p.dn (dn_oids_ok _ hdn)
  have ver : asNat (Asn1.intOfNat 0) = some 0 := asNat_intOfNat 0
  simp only [Option.bind, twinInfo, Asn1.seq, spkiNode, decodeCsrInfoTree, ver, n1, hdec, modelCsr,
    spkiDer]

theorem encodeList_length_perm {a b : List Asn1} (h : a.Perm b) :
    (encodeList a).length = (encodeList b).length := by
  induction h with
  | nil => rfl
  | cons x _ ih => simp only [encodeList, List.length_append, ih]
  | swap x y l => simp only [encodeList, List.length_append]; omega
  | trans _ _ ih1 ih2 => exact ih1.trans ih2

/-- the size of the request does not depend on the order the attribute set is written in -/
theorem csrInfo_length (p : CertParams) (s : PubKey) (attrs : List Attribute) :
    (encode (csrInfo p s attrs)).length =
      (encode (.seq [.intOfNat 0, writeDistinguishedName p.dn, spkiNode s,
        .cons 2 0 (csrAttributes p attrs)])).length := by
  have h := encodeList_length_perm (List.mergeSort_perm (csrAttributes p attrs)
    (fun a b => bytesLe (encode a) (encode b)))
  simp only [csrInfo, Asn1.seq, Asn1.implicit, Asn1.setOf, sortByEncoding, encode, encodeList,
    List.length_append, List.length_cons, h]

-- `callerAttrs` names the `let` of that name in `Spec.c07Clauses`; `extReqSem` is what its
-- `let rest` comes to on a written request (`attrs_rest`)
def callerAttrs (i : CsrInputs) : List CsrAttr := i.attrs.map (fun a => ⟨a.oid, a.values⟩)

def extReqSem (i : CsrInputs) : List CsrAttr :=
  if writeExtensionRequest i.p then [⟨oidExtensionRequest, encode (extReqValue i.p)⟩] else []

theorem attrs_perm (i : CsrInputs) (hoids : ∀ a ∈ i.attrs, oidOk a.oid = true) :
    (modelCsr i).attrs.Perm (extReqSem i ++ callerAttrs i) := by
  -- sorting permutes the nodes; read in the order written they are the right-hand side
  refine ((List.mergeSort_perm _ _).map semAttr).trans (.of_eq ?_)
  unfold csrAttributes extReqSem callerAttrs
  rw [List.map_append, List.map_map]
  congr 1
  · cases writeExtensionRequest i.p <;> simp [sem_extReq]
  · exact List.map_congr_left fun a ha => sem_attrNode a (hoids a ha)

/-- a list of at most one element has no other permutation -/
theorem perm_extReqSem {i : CsrInputs} {l : List CsrAttr} (h : l.Perm (extReqSem i)) :
    l = extReqSem i := by
  unfold extReqSem at h ⊢
  generalize writeExtensionRequest i.p = w at h ⊢
  cases w
  · exact h.eq_nil
  · exact List.perm_singleton.1 h

/-- what the caller's attributes do not account for is the extension request, if one is written -/
theorem attrs_rest (i : CsrInputs) (hoids : ∀ a ∈ i.attrs, oidOk a.oid = true) :
    (callerAttrs i).foldl (fun acc a => acc.erase a) (modelCsr i).attrs = extReqSem i :=
  perm_extReqSem (foldl_erase_perm (callerAttrs i) _ _ (attrs_perm i hoids))

/-- the `let wantsRequest` of `Spec.c07Clauses` is the writer's own test -/
theorem wantsRequest_eq (i : CsrInputs) :
    (!(reqCsrExts i).isEmpty) = writeExtensionRequest i.p := by
  simp only [reqCsrExts, writeExtensionRequest, isEmpty_append, List.isEmpty_map,
    isEmpty_ite_singleton, Bool.not_and]

theorem csr_strip (i : CsrInputs) (hc : ∀ e ∈ i.p.customExts, e.oid ∉ knownOids) :
    (modelCsrExts i).map (normExt (i.p.customExts.map (·.oid))) = reqCsrExts i := by
  have std (o : List Nat) (ho : o ∈ knownOids) (cr : Bool) (v : ExtValue) :=
    normExt_known (i.p.customExts.map (·.oid)) o cr v (not_custom hc ho)
  unfold modelCsrExts reqCsrExts kuRow sanRow ekuRow
  simp only [List.map_append, apply_ite (List.map _), List.map_cons, List.map_nil, normExt_custom,
    std _ (by decide : oidKeyUsage ∈ knownOids), std _ (by decide : oidSan ∈ knownOids),
    std _ (by decide : oidEku ∈ knownOids)]

theorem extReq_wf (i : CsrInputs) (h : writeExtensionRequest i.p = true)
    (hsize : (encode (csrInfo i.p i.subject i.attrs)).length < 256 ^ 126) :
    (extReqValue i.p).WF := by
  refine wf_of_tagsOk _ ?_ (Nat.lt_of_le_of_lt ?_ hsize)
  · simp [extReqValue, asn1, tagsOk_requested]
  · -- value ≤ extension-request attribute ≤ attribute set ≤ certificationRequestInfo
    have hmem : extensionRequestAttr i.p ∈ sortByEncoding (csrAttributes i.p i.attrs) :=
      List.mem_mergeSort.2 (by simp [csrAttributes, h])
    have h1 : (encode (extReqValue i.p)).length ≤ (encode (extensionRequestAttr i.p)).length := by
      rw [extensionRequestAttr_eq]
      exact encode_child_le (List.mem_cons_of_mem _ (List.mem_singleton_self _))
    have h3 : (encode (.cons 2 0 (sortByEncoding (csrAttributes i.p i.attrs)))).length ≤
        (encode (csrInfo i.p i.subject i.attrs)).length :=
      encode_child_le (by simp [Asn1.implicit, Asn1.setOf])
    exact Nat.le_trans h1 (Nat.le_trans (encode_child_le hmem) h3)

/-- a CSR says exactly what its parameters say -/
theorem c07_clauses_hold (i : CsrInputs) (vals : Attribute → Asn1) (hv : ValuesAreDer i.attrs vals)
    (hnp : csrPanics i.p i.attrs = false)
    (hc : ∀ e ∈ i.p.customExts, e.oid ∉ knownOids)
    (hsize : (encode (csrInfo i.p i.subject i.attrs)).length < 256 ^ 126) :
    c07Clauses i (encode (csrInfo i.p i.subject i.attrs)) = [] := by
  unfold c07Clauses
  rw [csr_decodes i vals hv hnp hsize]
  obtain ⟨-, hx, hoids⟩ := (csrPanics_eq_false _ _).1 hnp
  have hver : (modelCsr i).version = 0 := rfl
  have hsub : (modelCsr i).subject = reqName (enumOf i.p.dn) := rfl
  have hsp : (modelCsr i).spki = rfcSpki i.subject := spki_is_rfc _
  have hcount : (callerAttrs i).all
      (fun a => decide ((modelCsr i).attrs.count a ≥ (callerAttrs i).count a)) = true :=
    List.all_eq_true.2 fun a _ => by
      rw [(attrs_perm i hoids).count_eq, List.count_append]
      simp
  have hrest := attrs_rest i hoids
  unfold callerAttrs at hcount hrest
  simp only [wantsRequest_eq i, hver, hsub, hsp, hcount, hrest, clause, beq_self_eq_true, if_true,
    List.nil_append]
  unfold extReqSem
  cases hwr : writeExtensionRequest i.p with
  | false => rfl
  | true =>
    have hd := decode_extReqValue i (extReq_wf i hwr hsize) (hx hwr) hc
    simp only [if_true, beq_self_eq_true, hd, csr_strip i hc, isPermOf_self, List.nil_append]

end Rcgen.Proofs.CsrDecode
