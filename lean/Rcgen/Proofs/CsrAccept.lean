import Rcgen.Model.CsrParse
import Rcgen.Proofs.ExtKind
/-
  What acceptance of a request by `parseCsr` establishes: the gates it went through (`Accepted`),
  what one turn of the loop over the requested extensions does (`Step`), and what the loop leaves
  in the parameters under each extension identifier (`applyRequested_at`), given that each
  decoded extension comes with the raw bytes of its own value (`Paired`).  Then, that the parser's
  reading of the extension request supplies such pairs (`requested_paired`,
  `requested_decoded`), and that its purposes are those of the import (`insertStd_eq_import`).
-/
-- the issuance proofs name the frame `CsrIssue.Frame`, and the loop lemmas of this file already need it
namespace Rcgen.Proofs.CsrIssue
open Rcgen.Model

/-- the parameters the loop over the requested extensions never writes -/
structure Frame (p p' : CertParams) : Prop where
  dn : p'.dn = p.dn
  isCa : p'.isCa = p.isCa
  nc : p'.nameConstraints = p.nameConstraints
  crlDps : p'.crlDps = p.crlDps
  custom : p'.customExts = p.customExts
  aki : p'.useAki = p.useAki
  kid : p'.keyIdMethod = p.keyIdMethod
  serial : p'.serial = p.serial
  nb : p'.notBefore = p.notBefore
  na : p'.notAfter = p.notAfter

theorem Frame.refl (p : CertParams) : Frame p p := ⟨rfl, rfl, rfl, rfl, rfl, rfl, rfl, rfl, rfl, rfl⟩

theorem Frame.trans {a b c : CertParams} (h1 : Frame a b) (h2 : Frame b c) : Frame a c :=
  ⟨h2.dn.trans h1.dn, h2.isCa.trans h1.isCa, h2.nc.trans h1.nc, h2.crlDps.trans h1.crlDps,
   h2.custom.trans h1.custom, h2.aki.trans h1.aki, h2.kid.trans h1.kid, h2.serial.trans h1.serial,
   h2.nb.trans h1.nb, h2.na.trans h1.na⟩

end Rcgen.Proofs.CsrIssue

namespace Rcgen.Proofs.CsrAccept
open Rcgen.Model Rcgen.Spec Rcgen.Proofs.ExtKind Rcgen.Proofs.CsrIssue

/-- A `Type`, handed out under `Nonempty`: the record names the intermediate values of the parse
    (data fields), so it cannot be a structure in `Prop`. -/
structure Accepted (p521 crypto : Bool) (verify : Bytes → Bytes → Bytes → Bytes → Bool)
    (der : Bytes) (r : CsrParsed) : Type where
  info : Bytes
  algDer : Bytes
  sig : Bytes
  i : CsrInfo
  spkiAlg : Bytes
  keyBits : Bytes
  oid : List Nat
  sigAlg : SigAlg
  dn : DistinguishedName
  exts : List (Ext × Bytes)
  hsplit : splitSigned der = some (info, algDer, sig)
  hinfo : decodeCsrInfo info = some i
  hparts : spkiParts i.spki = some (spkiAlg, keyBits)
  hverify : verify i.spki info algDer sig = true
  hoid : algIdOid algDer = some oid
  hsig : sigAlgFromOid p521 oid = some sigAlg
  hkey : csrKeyAlg p521 sigAlg spkiAlg = some r.key.alg
  hsame : r.key.alg.sameKeyType sigAlg = true
  hname : importName i.subject = .ok dn
  hreq : csrExtensionRequests i.attrs = .ok exts
  happly : applyRequested
    { defaultParams with dn := dn, keyIdMethod := if crypto then .sha256 else .preSpecified [] } [] exts
      = .ok r.params
  hraw : r.key.raw = keyBits
  hspki : spkiDer r.key = i.spki

theorem accepted_steps (p521 crypto : Bool) (verify : Bytes → Bytes → Bytes → Bytes → Bool)
    (der : Bytes) (r : CsrParsed) (h : parseCsr p521 crypto verify der = .ok r) :
    Nonempty (Accepted p521 crypto verify der r) := by
  -- one step per gate, in the order of `parseCsr`: `split` for a `match`; for an `if`,
  -- `ite_else_of_ne h nofun` takes this one `if` off (`split at h` would rewrite the rest of the parser)
  unfold parseCsr at h
  split at h
  · cases h
  rename_i info alg sig hs
  split at h
  case h_2 => cases h
  rename_i i spkiAlg keyBits hd hp
  rw [hd] at hp
  obtain ⟨hv, h⟩ := ite_else_of_ne h nofun
  split at h
  · cases h
  rename_i oid ho
  split at h
  · cases h
  rename_i sigAlg hsg
  split at h
  · cases h
  rename_i a hk
  obtain ⟨hst, h⟩ := ite_else_of_ne h nofun
  split at h
  · cases h
  rename_i dn hn
  -- the `let`s go first: `split` would otherwise take the `if crypto` inside them
  dsimp only at h
  split at h
  · cases h
  rename_i exts hr
  split at h
  · cases h
  rename_i params ha
  obtain ⟨hne, h⟩ := ite_else_of_ne h nofun
  cases h
  simp only [Bool.not_eq_true, Bool.not_eq_false', bne_iff_ne, ne_eq, Decidable.not_not] at hv hst hne
  exact ⟨⟨info, alg, sig, i, spkiAlg, keyBits, oid, sigAlg, dn, exts, hs, hd, hp, hv, ho, hsg, hk,
    hst, hn, hr, ha, rfl, hne⟩⟩

/-- one turn of the loop of `applyRequested`: what each guard lets through, and the parameters
    it leaves -/
inductive Step (p : CertParams) (raw : Bytes) : ExtValue → CertParams → Prop
  | keyUsage (bits : List Nat) (hne : importKeyUsages bits ≠ [])
      (hraw : encode (keyUsageValue (importKeyUsages bits)) = raw) :
      Step p raw (.keyUsage bits) { p with keyUsages := importKeyUsages bits }
  | san (names : List GName) (s : List SanType) (hs : importSans names = .ok s) (hne : s ≠ [])
      (hraw : encode (.seq (s.map sanNode)) = raw) :
      Step p raw (.san names) { p with sans := p.sans ++ s }
  | eku (oids : List (List Nat)) (hstd : oids.all (fun o => stdEkus.any (fun e => e.oid == o)) = true)
      (hne : insertStdEkus p.ekus oids ≠ []) :
      Step p raw (.eku oids) { p with ekus := insertStdEkus p.ekus oids }

theorem applyRequested_nil {p p' : CertParams} {seen : List (List Nat)}
    (h : applyRequested p seen [] = .ok p') : p' = p :=
  (Except.ok.inj h).symm

theorem applyRequested_cons {p p' : CertParams} {seen : List (List Nat)} {e : Ext} {raw : Bytes}
    {rest : List (Ext × Bytes)} (h : applyRequested p seen ((e, raw) :: rest) = .ok p') :
    e.oid ∉ seen ∧ ∃ q, Step p raw e.value q ∧ applyRequested q (e.oid :: seen) rest = .ok p' := by
  unfold applyRequested at h
  -- takes this one `if` off; `split at h` would rewrite the rest of the loop body
  obtain ⟨hseen, h⟩ := ite_else_of_ne h nofun
  refine ⟨by simpa using hseen, ?_⟩
  split at h
  · rename_i bits hv
    obtain ⟨hc, h⟩ := ite_else_of_ne h nofun
    simp only [Bool.or_eq_true, List.isEmpty_iff, bne_iff_ne, ne_eq, not_or, Decidable.not_not] at hc
    exact ⟨_, hv ▸ .keyUsage bits hc.1 hc.2, h⟩
  · rename_i names hv
    split at h
    · rename_i s hs
      obtain ⟨hc, h⟩ := ite_else_of_ne h nofun
      simp only [Bool.or_eq_true, List.isEmpty_iff, bne_iff_ne, ne_eq, not_or, Decidable.not_not] at hc
      exact ⟨_, hv ▸ .san names s hs hc.1 hc.2, h⟩
    · cases h
  · rename_i oids hv
    split at h
    · rename_i hc
      simp only [Bool.and_eq_true, Bool.not_eq_true', List.isEmpty_eq_false_iff] at hc
      exact ⟨_, hv ▸ .eku oids hc.1 hc.2, h⟩
    · cases h
  · cases h

theorem Step.value_cases {p q : CertParams} {raw : Bytes} {v : ExtValue} (st : Step p raw v q) :
    (∃ b, v = .keyUsage b) ∨ (∃ n, v = .san n) ∨
      (∃ o, v = .eku o ∧ o.all (fun x => stdEkus.any (fun s => s.oid == x)) = true) := by
  cases st with
  | keyUsage b => exact .inl ⟨b, rfl⟩
  | san n => exact .inr (.inl ⟨n, rfl⟩)
  | eku o hstd _ => exact .inr (.inr ⟨o, rfl, hstd⟩)

theorem applyRequested_mem {p p' : CertParams} {seen : List (List Nat)} {exts : List (Ext × Bytes)}
    (h : applyRequested p seen exts = .ok p') : ∀ x ∈ exts, ∃ q q', Step q x.2 x.1.value q' := by
  induction exts generalizing p seen with
  | nil => exact fun _ hx => nomatch hx  -- not `nofun`: it would try `h` and unfold the loop
  | cons y rest ih =>
    obtain ⟨-, q, st, h'⟩ := applyRequested_cons h
    exact List.forall_mem_cons.2 ⟨⟨p, q, st⟩, ih h'⟩

theorem unsupported_rejected (p p' : CertParams) (seen : List (List Nat)) (exts : List (Ext × Bytes))
    (h : applyRequested p seen exts = .ok p') :
    ∀ e ∈ exts, (∃ b, e.1.value = .keyUsage b) ∨ (∃ n, e.1.value = .san n) ∨
      (∃ o, e.1.value = .eku o ∧ o.all (fun x => stdEkus.any (fun s => s.oid == x)) = true) :=
  fun e he => let ⟨_, _, st⟩ := applyRequested_mem h e he; st.value_cases

theorem applyRequested_fresh {p p' : CertParams} {seen : List (List Nat)} {exts : List (Ext × Bytes)}
    (h : applyRequested p seen exts = .ok p') :
    (exts.map (·.1.oid)).Nodup ∧ ∀ e ∈ exts, e.1.oid ∉ seen := by
  induction exts generalizing p seen with
  | nil => exact ⟨List.nodup_nil, fun _ he => nomatch he⟩
  | cons x rest ih =>
    obtain ⟨hx, q, -, h'⟩ := applyRequested_cons h
    obtain ⟨hnd, hns⟩ := ih h'
    refine ⟨List.nodup_cons.2 ⟨fun hm => ?_, hnd⟩,
      List.forall_mem_cons.2 ⟨hx, fun e he hin => hns e he (List.mem_cons_of_mem _ hin)⟩⟩
    obtain ⟨e, he, heq⟩ := List.mem_map.1 hm
    exact hns e he (heq ▸ List.mem_cons_self)

theorem Step.frame {p q : CertParams} {raw : Bytes} {v : ExtValue} (st : Step p raw v q) :
    Frame p q := by
  cases st <;> exact ⟨rfl, rfl, rfl, rfl, rfl, rfl, rfl, rfl, rfl, rfl⟩

theorem applyRequested_frame {p p' : CertParams} {seen : List (List Nat)} {exts : List (Ext × Bytes)}
    (h : applyRequested p seen exts = .ok p') : Frame p p' := by
  induction exts generalizing p seen with
  | nil => exact applyRequested_nil h ▸ Frame.refl _
  | cons x rest ih =>
    obtain ⟨-, q, st, h'⟩ := applyRequested_cons h
    exact st.frame.trans (ih h')

/-- a decoded extension and the raw bytes of its value belong together -/
def Paired (x : Ext × Bytes) : Prop := decodeExtValue x.1.oid x.2 = some x.1.value

theorem Step.kindOid_eq {p q : CertParams} {raw : Bytes} {e : Ext} (st : Step p raw e.value q)
    (hp : Paired (e, raw)) : kindOid e.value = some e.oid := by
  generalize hv : e.value = v at st
  unfold Paired at hp
  rw [hv] at hp
  cases st <;> exact congrArg some (decodeExtValue_kind hp rfl).symm

theorem valOf_cons (e : Ext) (l : List Ext) (o : List Nat) :
    valOf (e :: l) o = if e.oid == o then e.value :: valOf l o else valOf l o := by
  unfold valOf
  simp only [List.filter_cons]
  split <;> simp

theorem valOf_eq_nil {l : List Ext} {o : List Nat} (h : ∀ e ∈ l, e.oid ≠ o) : valOf l o = [] := by
  unfold valOf
  rw [List.map_eq_nil_iff, List.filter_eq_nil_iff]
  exact fun e he => by simpa using h e he

theorem valOf_append (l₁ l₂ : List Ext) (k : List Nat) :
    valOf (l₁ ++ l₂) k = valOf l₁ k ++ valOf l₂ k := by
  simp only [valOf, List.filter_append, List.map_append]

theorem valOf_opt (a : Bool) (o k : List Nat) (c : Bool) (v : ExtValue) :
    valOf (if a then [] else [⟨o, c, v⟩]) k = if a then [] else if o = k then [v] else [] := by
  cases a <;> by_cases h : o = k <;> simp [valOf, h]

/-- a list of three optional extensions under distinct identifiers, read at each of them -/
theorem valOf_opt3 {a b c : Bool} {ox oy oz : List Nat} {cx cy cz : Bool} {vx vy vz : ExtValue}
    (hxy : ox ≠ oy) (hxz : ox ≠ oz) (hyz : oy ≠ oz) {l : List Ext}
    (hl : l = (if a then [] else [⟨ox, cx, vx⟩]) ++ (if b then [] else [⟨oy, cy, vy⟩]) ++
      (if c then [] else [⟨oz, cz, vz⟩])) :
    valOf l ox = (if a then [] else [vx]) ∧ valOf l oy = (if b then [] else [vy]) ∧
      valOf l oz = (if c then [] else [vz]) := by
  subst hl
  simp [valOf_append, valOf_opt, hxy, hxz, hyz, hxy.symm, hxz.symm, hyz.symm]

/-- The loop, read at one identifier `k`, through a field `f` of the parameters that only turns
    on values of kind `k` touch.  Identifiers do not repeat (`applyRequested_fresh`), so after the
    turn on `k` the first alternative of the induction hypothesis applies. -/
theorem applyRequested_at {α : Type} (k : List Nat) (f : CertParams → α)
    (hf : ∀ {p q : CertParams} {raw : Bytes} {v : ExtValue}, Step p raw v q → kindOid v ≠ some k → f q = f p)
    {p p' : CertParams} {seen : List (List Nat)} {exts : List (Ext × Bytes)}
    (hp : ∀ x ∈ exts, Paired x) (h : applyRequested p seen exts = .ok p') :
    (valOf (exts.map (·.1)) k = [] ∧ f p' = f p) ∨
    (∃ raw v q q', valOf (exts.map (·.1)) k = [v] ∧ decodeExtValue k raw = some v ∧
      Step q raw v q' ∧ f q = f p ∧ f p' = f q') := by
  induction exts generalizing p seen with
  | nil => exact .inl ⟨rfl, congrArg f (applyRequested_nil h)⟩
  | cons x rest ih =>
    obtain ⟨e, raw⟩ := x
    obtain ⟨-, q, st, h'⟩ := applyRequested_cons h
    have hk := st.kindOid_eq (hp _ List.mem_cons_self)
    have ih := ih (fun x hx => hp x (List.mem_cons_of_mem _ hx)) h'
    rw [List.map_cons, valOf_cons]
    by_cases hek : e.oid = k
    · have hnil : valOf (rest.map (·.1)) k = [] := valOf_eq_nil fun y hy => by
        obtain ⟨x, hx, rfl⟩ := List.mem_map.1 hy
        exact fun hxk => (applyRequested_fresh h').2 x hx (hxk ▸ hek ▸ List.mem_cons_self)
      rw [hnil] at ih ⊢
      rcases ih with ⟨-, hq⟩ | ⟨_, _, _, _, hv, _⟩
      · exact .inr ⟨raw, e.value, p, q, by simp [hek], hek ▸ hp _ List.mem_cons_self, st, rfl, hq⟩
      · cases hv
    · have hq : f q = f p := hf st (fun hc => hek (Option.some.inj (hk.symm.trans hc)))
      rw [if_neg (by simpa using hek)]
      rcases ih with ⟨hv, hq'⟩ | ⟨raw', v, q₁, q₂, hv, hd, st', h1, h2⟩
      · exact .inl ⟨hv, hq'.trans hq⟩
      · exact .inr ⟨raw', v, q₁, q₂, hv, hd, st', h1.trans hq, h2⟩

/- `applyRequested_at` at each of the three identifiers, through the field that turns of that kind
   write.  Its hypothesis `hf` is by cases on the turn: two of the constructors leave the field as
   it is (`rfl`), the third has the kind that `hn` excludes.  On the turn that counts,
   `decodeExtValue_at_…` gives the kind of the value, so that one constructor is left, and its
   fields are what each lemma returns: the raw bytes with the value they decode to, what the
   guards let through, and the field as it is written. -/

theorem parsed_keyUsages {p p' : CertParams} {seen : List (List Nat)} {exts : List (Ext × Bytes)}
    (hp : ∀ x ∈ exts, Paired x) (h : applyRequested p seen exts = .ok p') :
    (valOf (exts.map (·.1)) oidKeyUsage = [] ∧ p'.keyUsages = p.keyUsages) ∨
    (∃ bits raw, valOf (exts.map (·.1)) oidKeyUsage = [.keyUsage bits] ∧
      decodeExtValue oidKeyUsage raw = some (.keyUsage bits) ∧
      importKeyUsages bits ≠ [] ∧ encode (keyUsageValue (importKeyUsages bits)) = raw ∧
      p'.keyUsages = importKeyUsages bits) := by
  rcases applyRequested_at oidKeyUsage (·.keyUsages)
    (fun st hn => by cases st <;> first | rfl | exact absurd rfl hn) hp h with
    hl | ⟨raw, v, q, q', hv, hd, st, -, h2⟩
  · exact .inl hl
  · obtain ⟨bits, rfl⟩ := decodeExtValue_at_keyUsage raw v hd
    cases st with
    | keyUsage _ hne hraw => exact .inr ⟨bits, raw, hv, hd, hne, hraw, h2⟩

theorem parsed_sans {p p' : CertParams} {seen : List (List Nat)} {exts : List (Ext × Bytes)}
    (hp : ∀ x ∈ exts, Paired x) (h : applyRequested p seen exts = .ok p') :
    (valOf (exts.map (·.1)) oidSan = [] ∧ p'.sans = p.sans) ∨
    (∃ names s raw, valOf (exts.map (·.1)) oidSan = [.san names] ∧
      decodeExtValue oidSan raw = some (.san names) ∧
      importSans names = .ok s ∧ s ≠ [] ∧ encode (.seq (s.map sanNode)) = raw ∧
      p'.sans = p.sans ++ s) := by
  rcases applyRequested_at oidSan (·.sans)
    (fun st hn => by cases st <;> first | rfl | exact absurd rfl hn) hp h with
    hl | ⟨raw, v, q, q', hv, hd, st, h1, h2⟩
  · exact .inl hl
  · obtain ⟨names, rfl⟩ := decodeExtValue_at_san raw v hd
    cases st with
    | san _ s hs hne hraw => exact .inr ⟨names, s, raw, hv, hd, hs, hne, hraw, by rw [h2, ← h1]⟩

theorem parsed_ekus {p p' : CertParams} {seen : List (List Nat)} {exts : List (Ext × Bytes)}
    (hp : ∀ x ∈ exts, Paired x) (h : applyRequested p seen exts = .ok p') :
    (valOf (exts.map (·.1)) oidEku = [] ∧ p'.ekus = p.ekus) ∨
    (∃ oids raw, valOf (exts.map (·.1)) oidEku = [.eku oids] ∧
      decodeExtValue oidEku raw = some (.eku oids) ∧
      oids.all (fun o => stdEkus.any (fun e => e.oid == o)) = true ∧
      insertStdEkus p.ekus oids ≠ [] ∧ p'.ekus = insertStdEkus p.ekus oids) := by
  rcases applyRequested_at oidEku (·.ekus)
    (fun st hn => by cases st <;> first | rfl | exact absurd rfl hn) hp h with
    hl | ⟨raw, v, q, q', hv, hd, st, h1, h2⟩
  · exact .inl hl
  · obtain ⟨oids, rfl, -⟩ := decodeExtValue_at_eku raw v hd
    cases st with
    | eku _ hstd hne =>
      exact .inr ⟨oids, raw, hv, hd, hstd, by rw [← h1]; exact hne, by rw [h2, ← h1]⟩

/-- a member of `l` is never in the accumulator when its turn comes: `l` has no repetitions and
    the accumulator has gained earlier members only -/
theorem foldl_insert_new {α : Type} [DecidableEq α] (P : α → Bool) (l acc : List α) (hnd : l.Nodup)
    (hdis : ∀ e ∈ l, e ∉ acc) :
    l.foldl (fun acc e => if P e && !acc.contains e then acc ++ [e] else acc) acc =
      acc ++ l.filter P := by
  induction l generalizing acc with
  | nil => simp
  | cons e l ih =>
    simp only [List.nodup_cons] at hnd
    have he : e ∉ acc := hdis e List.mem_cons_self
    have hc : acc.contains e = false := by simpa using he
    simp only [List.foldl_cons, hc, Bool.not_false, Bool.and_true]
    cases ho : P e with
    | false =>
      simp only [Bool.false_eq_true, if_false, List.filter_cons, ho]
      exact ih acc hnd.2 (fun x hx => hdis x (List.mem_cons_of_mem _ hx))
    | true =>
      simp only [if_true, List.filter_cons, ho]
      rw [ih (acc ++ [e]) hnd.2]
      · simp
      · intro x hx hm
        rcases List.mem_append.1 hm with hm | hm
        · exact hdis x (List.mem_cons_of_mem _ hx) hm
        · simp only [List.mem_singleton] at hm
          subst hm
          exact hnd.1 hx

/-- `insert_extended_key_usage` over the seven standard purposes, starting from none -/
theorem insertStd_eq_import (oids : List (List Nat)) : insertStdEkus [] oids = importEkus oids := by
  unfold insertStdEkus importEkus
  rw [foldl_insert_new (fun e => oids.contains e.oid) stdEkus [] (by decide) (fun _ _ h => nomatch h)]
  rfl

theorem at_most_one_request (attrs : List CsrAttr) (exts : List (Ext × Bytes))
    (h : csrExtensionRequests attrs = .ok exts) :
    (attrs.filter (fun a => a.oid == extensionRequestOid) = [] ∧ exts = []) ∨
    (∃ a dec raws, attrs.filter (fun a => a.oid == extensionRequestOid) = [a] ∧
      decodeExtensionRequest a.values = some dec ∧ rawExtValues a.values = some raws ∧
      exts = dec.zip raws) := by
  unfold csrExtensionRequests at h
  split at h
  · rename_i hf; injection h with h; exact Or.inl ⟨hf, h.symm⟩
  · rename_i a hf
    split at h
    · rename_i dec raws hd hr
      injection h with h
      exact Or.inr ⟨a, dec, raws, hf, hd, hr, h.symm⟩
    · split at h <;> cases h
  · cases h

theorem node_paired {n : Asn1} {e : Ext} {raw : Bytes} (h1 : decodeExt n = some e)
    (h2 : rawExtOf n = some raw) : Paired (e, raw) := by
  obtain ⟨o, v, rfl | ⟨b, rfl⟩, hv⟩ := decodeExt_inv h1 <;> cases h2 <;> exact hv

theorem zip_paired {nodes : List Asn1} {dec : List Ext} {raws : List Bytes}
    (h1 : nodes.mapM decodeExt = some dec) (h2 : nodes.mapM rawExtOf = some raws) :
    (∀ x ∈ dec.zip raws, Paired x) ∧ (dec.zip raws).map (·.1) = dec := by
  induction nodes generalizing dec raws with
  | nil => cases (Option.some.inj h1 : [] = dec); exact ⟨fun _ h => (nomatch h), rfl⟩
  | cons n ns ih =>
    obtain ⟨e, dec', he, hd, rfl⟩ := mapM_cons_eq_some.1 h1
    obtain ⟨raw, raws', hr, hrs, rfl⟩ := mapM_cons_eq_some.1 h2
    obtain ⟨i1, i2⟩ := ih hd hrs
    exact ⟨List.forall_mem_cons.2 ⟨node_paired he hr, i1⟩, congrArg (e :: ·) i2⟩

theorem decodeExtensionRequest_inv {values : Bytes} {dec : List Ext}
    (h : decodeExtensionRequest values = some dec) :
    ∃ nodes, decodeAll values = some (.cons 0 17 [.cons 0 16 nodes]) ∧
      nodes.mapM decodeExt = some dec := by
  unfold decodeExtensionRequest at h
  split at h
  · exact ⟨_, ‹_›, h⟩
  · cases h

theorem request_zip_paired {values : Bytes} {dec : List Ext} {raws : List Bytes}
    (hd : decodeExtensionRequest values = some dec) (hr : rawExtValues values = some raws) :
    (∀ x ∈ dec.zip raws, Paired x) ∧ (dec.zip raws).map (·.1) = dec := by
  obtain ⟨nodes, hn, hm⟩ := decodeExtensionRequest_inv hd
  unfold rawExtValues at hr
  rw [hn] at hr
  exact zip_paired hm hr

theorem requested_paired {attrs : List CsrAttr} {exts : List (Ext × Bytes)}
    (h : csrExtensionRequests attrs = .ok exts) : ∀ x ∈ exts, Paired x := by
  rcases at_most_one_request attrs exts h with ⟨-, rfl⟩ | ⟨a, dec, raws, -, hd, hr, rfl⟩
  · exact fun _ hx => nomatch hx
  · exact (request_zip_paired hd hr).1

theorem requested_decoded {attrs : List CsrAttr} {exts : List (Ext × Bytes)}
    (h : csrExtensionRequests attrs = .ok exts) :
    (attrs.filter (fun a => a.oid == extensionRequestOid) = [] ∧ exts = []) ∨
    ∃ a, attrs.filter (fun a => a.oid == extensionRequestOid) = [a] ∧
      decodeExtensionRequest a.values = some (exts.map (·.1)) := by
  rcases at_most_one_request attrs exts h with ⟨hf, rfl⟩ | ⟨a, dec, raws, hf, hd, hr, rfl⟩
  · exact .inl ⟨hf, rfl⟩
  · exact .inr ⟨a, hf, by rw [(request_zip_paired hd hr).2]; exact hd⟩

end Rcgen.Proofs.CsrAccept
