import Rcgen.Proofs.Basic
import Rcgen.Proofs.Leaf
/-
  `Spec.canonical` on the constructors of Base/Der.lean that the writers use, a `@[simp]` rule for
  each (none for `null`, `setOf`, a `set` of several members or `bool false`; those for `oid`
  and `bitString` have a side condition): unfold the writer and call `simp`, and canonicity of a
  written tree comes down to facts about its leaves.  Not together with `simp [asn1]`
  (Proofs/DerAttr.lean), which unfolds the constructors these rules match on.  At the end, that
  `sortByEncoding` leaves a SET OF in the order the checker asks for.  The namespace
  is that of Proofs/Canon.lean, which continues it for whole artefacts.
-/
namespace Rcgen.Proofs.Canon
open Rcgen.Spec

@[simp] theorem canonicalList_eq_all (l : List Asn1) : canonicalList l = l.all canonical := by
  induction l with
  | nil => rfl
  | cons a l ih => simp [canonicalList, ih]

@[simp] theorem canonical_seq (kids : List Asn1) : canonical (.seq kids) = kids.all canonical :=
  (Bool.and_true _).trans (canonicalList_eq_all kids)

theorem canonical_seq_map {α : Type} {f : α → Asn1} {l : List α}
    (h : ∀ x ∈ l, canonical (f x) = true) : canonical (.seq (l.map f)) = true := by
  simpa [List.all_eq_true] using h

@[simp] theorem canonical_set_one (t : Asn1) : canonical (.set [t]) = canonical t := by
  simp [Asn1.set, canonical, sortedBy]

@[simp] theorem canonical_cons_ctx (n : Nat) (kids : List Asn1) :
    canonical (.cons 2 n kids) = kids.all canonical :=
  (Bool.and_true _).trans (canonicalList_eq_all kids)

theorem canonical_ctx_cons (n : Nat) (kids : List Asn1) (h : canonicalList kids = true) :
    canonical (.cons 2 n kids) = true := by
  rw [canonical_cons_ctx, ← canonicalList_eq_all, h]

@[simp] theorem canonical_explicit (n : Nat) (t : Asn1) : canonical (.explicit n t) = canonical t := by
  simp [Asn1.explicit]

/- IMPLICIT tagging: the content is kept, the rule of the universal type does not apply -/

@[simp] theorem canonical_ctx_prim (n : Nat) (c : Bytes) : canonical (.prim 2 n c) = true := rfl

@[simp] theorem implicit_seq (n : Nat) (kids : List Asn1) : Asn1.implicit n (.seq kids) = .cons 2 n kids := rfl
@[simp] theorem implicit_ia5 (n : Nat) (b : Bytes) : Asn1.implicit n (.ia5 b) = .prim 2 n b := rfl
@[simp] theorem implicit_octets (n : Nat) (b : Bytes) : Asn1.implicit n (.octets b) = .prim 2 n b := rfl
@[simp] theorem implicit_bool (n : Nat) (b : Bool) :
    Asn1.implicit n (.bool b) = .prim 2 n [if b then 255 else 0] := rfl

@[simp] theorem canonical_octets (b : Bytes) : canonical (.octets b) = true := rfl
@[simp] theorem canonical_bool_true : canonical (.bool true) = true := rfl
@[simp] theorem canonical_utf8 (b : Bytes) : canonical (.utf8 b) = utf8Valid b := Bool.and_true _
@[simp] theorem canonical_printable (b : Bytes) : canonical (.printable b) = b.all printableChar :=
  Bool.and_true _
@[simp] theorem canonical_teletex (b : Bytes) :
    canonical (.teletex b) = b.all (fun x => 32 ≤ x.toNat && x.toNat ≤ 127) := Bool.and_true _
@[simp] theorem canonical_ia5 (b : Bytes) : canonical (.ia5 b) = b.all (fun x => x.toNat < 128) :=
  Bool.and_true _
@[simp] theorem canonical_universalStr (b : Bytes) : canonical (.universalStr b) = quadsOk b :=
  Bool.and_true _
@[simp] theorem canonical_bmp (b : Bytes) : canonical (.bmp b) = pairsOk b := Bool.and_true _
@[simp] theorem canonical_utcTime (c : Bytes) : canonical (.utcTime c) = (parseUtcTime c).isSome :=
  Bool.and_true _
@[simp] theorem canonical_genTime (c : Bytes) :
    canonical (.genTime c) = (parseGeneralizedTime c).isSome := Bool.and_true _

theorem canonical_oid (arcs : List Nat) (h : oidOk arcs = true) : canonical (.oid arcs) = true := by
  show (oidMinimal (oidContent arcs) && (oidArcs (oidContent arcs)).isSome && true) = true
  rw [Leaf.oidMinimal_oidContent arcs h, Leaf.oidArcs_oidContent arcs h]
  rfl

theorem stripZeros_head (bs : Bytes) : ∀ b r, stripZeros bs = b :: r → b ≠ 0 := by
  induction bs with
  | nil => intro b r h; cases h
  | cons x xs ih =>
    intro b r h
    rw [stripZeros] at h
    split at h
    · exact ih b r h
    · next hx => cases h; exact hx

theorem intMinimal_ofBytes (bs : Bytes) : intMinimal (intContentOfBytes bs) = true := by
  unfold intContentOfBytes
  cases hs : stripZeros bs with
  | nil => rfl
  | cons b r =>
    -- `b` is not 0; a 0 is put in front of it only if `b ≥ 128`, and if `b < 128` it is not 255
    have hb : b.toNat ≠ 0 := fun h => stripZeros_head bs b r hs (UInt8.toNat_inj.1 h)
    simp only
    split
    · simp [intMinimal]; omega
    · cases r with
      | nil => rfl
      | cons c r' => simp [intMinimal]; omega

@[simp] theorem canonical_intOfBytes (bs : Bytes) : canonical (.intOfBytes bs) = true :=
  (Bool.and_true _).trans (intMinimal_ofBytes bs)
@[simp] theorem canonical_intOfNat (n : Nat) : canonical (.intOfNat n) = true :=
  canonical_intOfBytes _
@[simp] theorem canonical_enumOfNat (n : Nat) : canonical (.enumOfNat n) = true :=
  canonical_intOfBytes _

theorem masked_low_bits (x u : Nat) (hu : u < 8) :
    (x &&& (255 - (255 >>> (8 - u)))) % 2 ^ u = 0 := by
  apply Nat.eq_of_testBit_eq
  intro j
  rw [Nat.testBit_mod_two_pow, Nat.testBit_and, Nat.zero_testBit,
    testBit_unusedMask u j (Nat.le_of_lt hu)]
  by_cases hj : j < u
  · simp [Nat.not_le.2 hj]
  · simp [hj]

/-- whatever the octets: the writer clears the unused bits of the last octet itself -/
theorem bitStringCanonical_content (bs : Bytes) (nbits : Nat) (h : 8 * bs.length - nbits < 8) :
    bitStringCanonical (bitStringContent bs nbits) = true := by
  have hu : (UInt8.ofNat (8 * bs.length - nbits)).toNat = 8 * bs.length - nbits :=
    toNat_ofNat_lt (Nat.lt_trans h (by decide))
  unfold bitStringContent
  cases hr : bs.reverse with
  | nil =>
    have : bs = [] := by simpa using hr
    subst this
    simp [bitStringCanonical]
  | cons last init =>
    simp only [bitStringCanonical, hu, List.getLast?_append, List.getLast?_singleton, Option.some_or,
      Bool.and_eq_true, decide_eq_true_eq, beq_iff_eq]
    refine ⟨h, ?_⟩
    rw [toNat_ofNat_lt (Nat.lt_of_le_of_lt Nat.and_le_left last.toNat_lt)]
    exact masked_low_bits _ _ h

theorem canonical_bitString (bs : Bytes) (nbits : Nat) (h : 8 * bs.length - nbits < 8) :
    canonical (.bitString bs nbits) = true :=
  (Bool.and_true _).trans (bitStringCanonical_content bs nbits h)

@[simp] theorem canonical_bitStringOctets (bs : Bytes) : canonical (.bitStringOctets bs) = true :=
  canonical_bitString bs _ (by omega)

theorem bytesLe_iff (a b : Bytes) : bytesLe a b = true ↔ a ≤ b := by
  induction a generalizing b with
  | nil => simp [bytesLe]
  | cons x xs ih =>
    cases b with
    | nil => simp [bytesLe]
    | cons y ys =>
      rw [bytesLe, List.cons_le_cons_iff, ← ih]
      by_cases h1 : x < y
      · simp [h1]
      · by_cases h2 : y < x
        · have : x ≠ y := fun e => by subst e; exact h1 h2
          simp [h2, this]
        · have : x = y := UInt8.le_antisymm (UInt8.not_lt.1 h2) (UInt8.not_lt.1 h1)
          simp [this]

theorem bytesLe_total (a b : Bytes) : (bytesLe a b || bytesLe b a) = true := by
  simpa [bytesLe_iff] using List.le_total a b

theorem bytesLe_trans (a b c : Bytes) (h1 : bytesLe a b = true) (h2 : bytesLe b c = true) :
    bytesLe a c = true :=
  (bytesLe_iff a c).2 (List.le_trans ((bytesLe_iff a b).1 h1) ((bytesLe_iff b c).1 h2))

theorem sortedBy_of_pairwise (l : List Bytes)
    (h : l.Pairwise (fun a b => bytesLe a b = true)) : sortedBy bytesLe l = true := by
  induction l with
  | nil => rfl
  | cons a l ih =>
    cases l with
    | nil => rfl
    | cons b l' =>
      simp only [sortedBy, Bool.and_eq_true]
      rw [List.pairwise_cons] at h
      exact ⟨h.1 b (by simp), ih h.2⟩

theorem set_of_sorted (kids : List Asn1) :
    sortedBy bytesLe ((sortByEncoding kids).map encode) = true :=
  sortedBy_of_pairwise _ <| List.Pairwise.map encode (fun _ _ h => h) <|
    List.pairwise_mergeSort (le := fun a b => bytesLe (encode a) (encode b))
      (fun _ _ _ => bytesLe_trans _ _ _) (fun _ _ => bytesLe_total _ _) kids

end Rcgen.Proofs.Canon
