import Rcgen.Base.Date
/-
  Calendar arithmetic: `civilFromDays` and `daysFromCivil` are inverse to each other on the
  dates that exist, and civil year `y` begins on day `daysFromCivil y 1 1`.

  Both functions count years from 1 March, so that the leap day ends its year.
  `civilFromDays_spec` says that every day number is a day of such a year (`MarchDate`,
  `marchDays`) and what `civilFromDays` returns for it, `marchDays_inj` that it is so in one way
  only, `marchDate_iff` that these are the dates of the civil calendar; the month table enters
  once, in `daysInMonth_eq`.
-/
namespace Rcgen

/-- days from 1 March of year 0 to 1 March of year `n` -/
def yearStart (n : Int) : Int := n * 365 + n / 4 - n / 100 + n / 400

/-- an era of 400 years has 146097 days -/
theorem yearStart_add_era (n e : Int) : yearStart (n + e * 400) = yearStart n + e * 146097 := by
  unfold yearStart; omega

theorem isLeapYear_iff (y : Int) :
    isLeapYear y = true ↔ y % 4 = 0 ∧ y % 100 ≠ 0 ∨ y % 400 = 0 := by
  simp [isLeapYear]

/-- the year that begins on 1 March of year `n` contains 29 February of year `n + 1` -/
theorem yearStart_succ (n : Int) :
    yearStart (n + 1) = yearStart n + if isLeapYear (n + 1) then 366 else 365 := by
  unfold yearStart
  simp only [isLeapYear_iff]
  omega

theorem leapDays_mono (x y : Int) (h : x ≤ y) : x / 4 - x / 100 ≤ y / 4 - y / 100 := by
  -- n/4 - n/100 = u - u/25 with u = n/4
  have e (n : Int) : n / 100 = n / 4 / 25 :=
    (Int.ediv_ediv_of_nonneg (y := 4) (z := 25) (by decide)).symm
  rw [e x, e y]
  have h4 : x / 4 ≤ y / 4 := Int.ediv_le_ediv (by decide) h
  generalize x / 4 = u at *
  generalize y / 4 = v at *
  omega

theorem yearStart_mono (x y : Int) (h : x ≤ y) : yearStart x + (y - x) * 365 ≤ yearStart y := by
  have := leapDays_mono x y h
  unfold yearStart
  omega

/-- `yearStart_mono` across at least one year, for the polynomial without `/ 400` (which is
    `yearStart` within an era, see `year_len`) -/
theorem f_step (x y : Int) (hx : 0 ≤ x) (h : x + 1 ≤ y) :
    x * 365 + x / 4 - x / 100 + 365 ≤ y * 365 + y / 4 - y / 100 := by
  have := leapDays_mono x y (by omega)
  omega

theorem yearStart_unique (t n n' : Int) (h1 : yearStart n ≤ t) (h2 : t < yearStart (n + 1))
    (h1' : yearStart n' ≤ t) (h2' : t < yearStart (n' + 1)) : n = n' := by
  have m := fun h => yearStart_mono (n + 1) n' h
  have m' := fun h => yearStart_mono (n' + 1) n h
  omega

/-- the leap rule as `yoeDoy` meets it, within an era: there `yearStart a` has no `a / 400`,
    and year 399 is followed by a multiple of 400 -/
theorem year_len (a b : Int) (ha : 0 ≤ a) (ha' : a ≤ 399) (hb : b ≤ 365)
    (hl : b = 365 → (a + 1) % 4 = 0 ∧ ((a + 1) % 100 ≠ 0 ∨ a = 399)) :
    yearStart a = a * 365 + a / 4 - a / 100 ∧ yearStart a + b < yearStart (a + 1) := by
  have e : a / 400 = 0 := by omega
  have hs := yearStart_succ a
  refine ⟨by rw [yearStart, e, Int.add_zero], ?_⟩
  by_cases h : b = 365
  · obtain ⟨l1, l2⟩ := hl h
    rw [if_pos ((isLeapYear_iff _).2 (by omega))] at hs
    omega
  · split at hs <;> omega

theorem f_unique (a a' b b' : Int) (ha : 0 ≤ a) (ha' : a ≤ 399) (hb : 0 ≤ b) (hb' : b ≤ 365)
    (hl : b = 365 → (a + 1) % 4 = 0 ∧ ((a + 1) % 100 ≠ 0 ∨ a = 399))
    (p1 : 0 ≤ a') (p2 : a' ≤ 399) (p3 : 0 ≤ b') (p4 : b' ≤ 365)
    (p6 : b' = 365 → (a' + 1) % 4 = 0 ∧ ((a' + 1) % 100 ≠ 0 ∨ a' = 399))
    (p5 : a' * 365 + a' / 4 - a' / 100 + b' = a * 365 + a / 4 - a / 100 + b) : a' = a ∧ b' = b := by
  obtain ⟨e, l⟩ := year_len a b ha ha' hb' hl
  obtain ⟨e', l'⟩ := year_len a' b' p1 p2 p4 p6
  rw [← e, ← e'] at p5
  obtain rfl := yearStart_unique (yearStart a + b) a a' (by omega) l (by omega) (by omega)
  exact ⟨rfl, by omega⟩

/-- one stage of `yoeDoy`: `c + 1` periods of `k` days, the last of them one day longer -/
theorem yoeDoy_stage (x k c : Int) (hk : 0 < k) (hc : 0 ≤ c) (h0 : 0 ≤ x) (h1 : x ≤ c * k + k) :
    0 ≤ min (x / k) c ∧ min (x / k) c ≤ c ∧ 0 ≤ x - min (x / k) c * k ∧
    x - min (x / k) c * k ≤ k ∧ (x - min (x / k) c * k = k → min (x / k) c = c ∧ x = c * k + k) := by
  have hq0 : 0 ≤ x / k := Int.ediv_nonneg h0 (Int.le_of_lt hk)
  have hlo : x / k * k ≤ x := Int.ediv_mul_le x (Int.ne_of_gt hk)
  have hhi : x < (x / k + 1) * k := Int.lt_ediv_add_one_mul_self x hk
  rw [Int.add_mul, Int.one_mul] at hhi
  rcases Int.le_total (x / k) c with h | h
  · rw [Int.min_eq_left h]; omega
  · rw [Int.min_eq_right h]
    have : c * k ≤ x / k * k := Int.mul_le_mul_of_nonneg_right h (Int.le_of_lt hk)
    omega

theorem yoeDoy_spec (doe : Int) (h1 : 0 ≤ doe) (h2 : doe ≤ 146096) :
    0 ≤ (yoeDoy doe).2 ∧ yearStart (yoeDoy doe).1 + (yoeDoy doe).2 = doe ∧
    doe < yearStart ((yoeDoy doe).1 + 1) := by
  unfold yoeDoy
  simp only
  -- centuries of 36524 days, four-year cycles of 1461, years of 365
  obtain ⟨c0, c1, d0, d1, d2⟩ :=
    yoeDoy_stage doe 36524 3 (by decide) (by decide) h1 (Int.le_trans h2 (by decide))
  generalize min (doe / 36524) 3 = c at *
  generalize hdoc : doe - c * 36524 = doc at *
  obtain ⟨q0, q1, r0, r1, r2⟩ :=
    yoeDoy_stage doc 1461 24 (by decide) (by decide) d0 (Int.le_trans d1 (by decide))
  generalize min (doc / 1461) 24 = q at *
  generalize hdoq : doc - q * 1461 = doq at *
  have r1' : doq ≤ 1460 := by omega
  obtain ⟨y0, y1, s0, s1, s2⟩ := yoeDoy_stage doq 365 3 (by decide) (by decide) r0 r1'
  generalize min (doq / 365) 3 = yr at *
  -- a 366th day ends a four-year cycle, and a full last cycle of a century happens only in
  -- the last century
  obtain ⟨e, l⟩ := year_len (c * 100 + q * 4 + yr) (doq - yr * 365) (by omega) (by omega) s1
    fun h => by
      obtain ⟨rfl, rfl⟩ := s2 h
      have : q = 24 → c = 3 := fun hq => (d2 (by omega)).1
      omega
  have e4 : (c * 100 + q * 4 + yr) / 4 = 25 * c + q := by omega
  have e100 : (c * 100 + q * 4 + yr) / 100 = c := by omega
  rw [e, e4, e100] at l ⊢
  exact ⟨s0, by omega, by omega⟩

/-- the two polynomials of `monthDay` are adjoint: month `mp` spans the days of the year from
    `(153 * mp + 2) / 5` up to the start of month `mp + 1` -/
theorem mp_eq_iff (doy mp : Int) :
    (5 * doy + 2) / 153 = mp ↔ (153 * mp + 2) / 5 ≤ doy ∧ doy < (153 * (mp + 1) + 2) / 5 := by
  omega

theorem monthDay_eq_iff (doy mp d : Int) :
    monthDay doy = (mp, d) ↔
      (153 * mp + 2) / 5 ≤ doy ∧ doy < (153 * (mp + 1) + 2) / 5 ∧
      d = doy - (153 * mp + 2) / 5 + 1 := by
  unfold monthDay
  rw [Prod.mk.injEq, ← and_assoc, ← mp_eq_iff]
  constructor
  · rintro ⟨rfl, rfl⟩; exact ⟨rfl, rfl⟩
  · rintro ⟨rfl, rfl⟩; exact ⟨rfl, rfl⟩

/-- the March-based index of civil month `m`: 0 for March, 11 for February -/
def marchMonth (m : Nat) : Int := if m > 2 then (m : Int) - 3 else (m : Int) + 9

/-- the March-based year that month `m` of civil year `y` lies in: January and February belong
    to the year before -/
def marchYear (y : Int) (m : Nat) : Int := if m ≤ 2 then y - 1 else y

/-- the civil month with March-based index `mp` -/
def civilMonth (mp : Int) : Nat := (if mp < 10 then mp + 3 else mp - 9).toNat

/-- the civil year that month `mp` of March-based year `n` lies in -/
def civilYear (n mp : Int) : Int := if mp < 10 then n else n + 1

theorem march_civil (n mp : Int) (h0 : 0 ≤ mp) (h1 : mp ≤ 11) :
    1 ≤ civilMonth mp ∧ civilMonth mp ≤ 12 ∧
    marchYear (civilYear n mp) (civilMonth mp) = n ∧ marchMonth (civilMonth mp) = mp := by
  unfold marchYear marchMonth civilYear civilMonth
  omega

theorem civil_march (y : Int) (m : Nat) (h0 : 1 ≤ m) (h1 : m ≤ 12) :
    civilYear (marchYear y m) (marchMonth m) = y ∧ civilMonth (marchMonth m) = m := by
  unfold marchYear marchMonth civilYear civilMonth
  omega

theorem marchMonth_range (m : Nat) (h1 : 1 ≤ m) (h2 : m ≤ 12) :
    0 ≤ marchMonth m ∧ marchMonth m ≤ 11 ∧ (m ≠ 2 → marchMonth m ≤ 10) := by
  unfold marchMonth
  omega

theorem daysInMonth_le (y : Int) (m : Nat) : daysInMonth y m ≤ 31 := by
  unfold daysInMonth; split <;> (try split) <;> decide

theorem daysInMonth_zero (y : Int) (m : Nat) (h : m ≠ 2) : daysInMonth y m = daysInMonth 0 m := by
  unfold daysInMonth; split <;> first | rfl | exact absurd rfl h

/-- the month table against the day-of-year polynomial: a month other than February ends where
    the next one begins -/
theorem daysInMonth_eq (y : Int) (m : Nat) (h1 : 1 ≤ m) (h2 : m ≤ 12) (h : m ≠ 2) :
    (153 * marchMonth m + 2) / 5 + (daysInMonth y m : Int) = (153 * (marchMonth m + 1) + 2) / 5 := by
  have table : ∀ m : Fin 13, 1 ≤ m.val → m.val ≠ 2 →
      (153 * marchMonth m.val + 2) / 5 + (daysInMonth 0 m.val : Int) =
        (153 * (marchMonth m.val + 1) + 2) / 5 := by
    decide
  rw [daysInMonth_zero y m h]
  exact table ⟨m, by omega⟩ h1 h

/-- the day number of day `d` of month `mp` (0 = March) of the year `n` that begins on 1 March -/
def marchDays (n mp d : Int) : Int := yearStart n + ((153 * mp + 2) / 5 + d - 1) - 719468

theorem daysFromCivil_eq (y : Int) (m d : Nat) :
    daysFromCivil y m d = marchDays (marchYear y m) (marchMonth m) d := by
  unfold daysFromCivil marchDays marchYear marchMonth
  simp only []
  generalize (if m ≤ 2 then y - 1 else y) = n
  -- `n` is year `yoe` of its era, and `yearStart yoe` has no `yoe / 400`
  have h := yearStart_add_era (n - n / 400 * 400) (n / 400)
  have e : (n - n / 400 * 400) / 400 = 0 := by omega
  rw [Int.sub_add_cancel] at h
  rw [h, yearStart, e]
  omega

/-- day `d` of month `mp` exists in March-based year `n` -/
structure MarchDate (n mp d : Int) : Prop where
  mp_nonneg : 0 ≤ mp
  d_pos : 1 ≤ d
  in_month : (153 * mp + 2) / 5 + d - 1 < (153 * (mp + 1) + 2) / 5
  in_year : marchDays n mp d < marchDays (n + 1) 0 1

theorem MarchDate.mp_le {n mp d : Int} (h : MarchDate n mp d) : mp ≤ 11 := by
  obtain ⟨_, _, _, h⟩ := h
  have := yearStart_succ n
  unfold marchDays at h
  split at this <;> omega

/-- the test of `civilFromDays` for January or February, on the month of `civilMonth` before its
    `toNat`.  A lemma of its own: inside `civilFromDays_spec`, `omega` would take that proof's whole
    context of division facts along for it. -/
theorem civilMonth_le_two (mp : Int) (h0 : 0 ≤ mp) (h1 : mp ≤ 11) :
    (if mp < 10 then mp + 3 else mp - 9) ≤ 2 ↔ ¬ mp < 10 := by omega

theorem civilFromDays_spec (z : Int) : ∃ n mp d : Int, MarchDate n mp d ∧ z = marchDays n mp d ∧
    civilFromDays z = (civilYear n mp, civilMonth mp, d.toNat) := by
  unfold civilFromDays civilYear civilMonth
  simp only []
  have hd1 : 0 ≤ z + 719468 - (z + 719468) / 146097 * 146097 := by omega
  have hd2 : z + 719468 - (z + 719468) / 146097 * 146097 ≤ 146096 := by omega
  generalize (z + 719468) / 146097 = era at *
  obtain ⟨a1, a2, a3⟩ := yoeDoy_spec _ hd1 hd2
  generalize yoeDoy (z + 719468 - era * 146097) = yd at *
  -- the year of the era, moved to its era
  have s1 := yearStart_add_era yd.1 era
  have s2 := yearStart_add_era (yd.1 + 1) era
  rw [Int.add_right_comm] at s2
  rcases hmd : monthDay yd.2 with ⟨mp, d⟩
  obtain ⟨b1, b2, b3⟩ := (monthDay_eq_iff _ _ _).1 hmd
  have h : MarchDate (yd.1 + era * 400) mp d :=
    ⟨by omega, by omega, by omega, by unfold marchDays; omega⟩
  refine ⟨_, mp, d, h, by unfold marchDays; omega, ?_⟩
  simp only [civilMonth_le_two mp h.mp_nonneg h.mp_le, ite_not]

theorem marchDays_lt (n mp d n' mp' d' : Int) (h : MarchDate n mp d) (hmp' : 0 ≤ mp') (hd' : 1 ≤ d')
    (hn : n < n') : marchDays n mp d < marchDays n' mp' d' := by
  have := h.in_year
  have := yearStart_mono (n + 1) n' hn
  unfold marchDays at *
  omega

theorem marchDays_inj {n mp d n' mp' d' : Int} (h : MarchDate n mp d) (h' : MarchDate n' mp' d')
    (e : marchDays n mp d = marchDays n' mp' d') : n = n' ∧ mp = mp' ∧ d = d' := by
  have l := marchDays_lt n mp d n' mp' d' h h'.mp_nonneg h'.d_pos
  have l' := marchDays_lt n' mp' d' n mp d h' h.mp_nonneg h.d_pos
  obtain rfl : n = n' := by omega
  -- the same day of the year, which lies in one month only
  have m := (monthDay_eq_iff ((153 * mp + 2) / 5 + d - 1) mp d).2
    ⟨by have := h.d_pos; omega, h.in_month, by omega⟩
  have m' := (monthDay_eq_iff ((153 * mp' + 2) / 5 + d' - 1) mp' d').2
    ⟨by have := h'.d_pos; omega, h'.in_month, by omega⟩
  rw [show (153 * mp + 2) / 5 + d - 1 = (153 * mp' + 2) / 5 + d' - 1 by
    unfold marchDays at e; omega, m'] at m
  cases m
  exact ⟨rfl, rfl, rfl⟩

theorem marchDate_iff (y : Int) (m : Nat) (d : Int) (hm1 : 1 ≤ m) (hm2 : m ≤ 12) (hd : 1 ≤ d) :
    d ≤ daysInMonth y m ↔ MarchDate (marchYear y m) (marchMonth m) d := by
  obtain ⟨h0, -, h10⟩ := marchMonth_range m hm1 hm2
  suffices h : d ≤ daysInMonth y m ↔
      (153 * marchMonth m + 2) / 5 + d - 1 < (153 * (marchMonth m + 1) + 2) / 5 ∧
      marchDays (marchYear y m) (marchMonth m) d < marchDays (marchYear y m + 1) 0 1 from
    h.trans ⟨fun ⟨a, b⟩ => ⟨h0, hd, a, b⟩, fun ⟨_, _, a, b⟩ => ⟨a, b⟩⟩
  unfold marchDays
  by_cases h2 : m = 2
  · -- February ends the March-based year: the length of the year decides
    subst h2
    have feb : daysInMonth y 2 = if isLeapYear y then 29 else 28 := rfl
    have hs := yearStart_succ (y - 1)
    rw [Int.sub_add_cancel] at hs
    rw [show marchMonth 2 = 11 from rfl, show marchYear y 2 = y - 1 from rfl,
      Int.sub_add_cancel, hs, feb]
    cases isLeapYear y <;> simp <;> omega
  · -- any other month ends before the 337th day of the year
    have := daysInMonth_eq y m hm1 hm2 h2
    have := h10 h2
    have := yearStart_mono (marchYear y m) (marchYear y m + 1) (by omega)
    omega

theorem days_civil_roundtrip (z : Int) :
    daysFromCivil (civilFromDays z).1 (civilFromDays z).2.1 (civilFromDays z).2.2 = z := by
  obtain ⟨n, mp, d, h, rfl, e⟩ := civilFromDays_spec z
  obtain ⟨-, -, e1, e2⟩ := march_civil n mp h.mp_nonneg h.mp_le
  rw [e, daysFromCivil_eq]
  simp only [e1, e2, Int.toNat_of_nonneg (Int.le_trans (by decide) h.d_pos)]

theorem civil_valid (z : Int) :
    1 ≤ (civilFromDays z).2.1 ∧ (civilFromDays z).2.1 ≤ 12 ∧ 1 ≤ (civilFromDays z).2.2 ∧
    (civilFromDays z).2.2 ≤ daysInMonth (civilFromDays z).1 (civilFromDays z).2.1 := by
  obtain ⟨n, mp, d, h, -, e⟩ := civilFromDays_spec z
  obtain ⟨m1, m2, e1, e2⟩ := march_civil n mp h.mp_nonneg h.mp_le
  have hv := (marchDate_iff (civilYear n mp) (civilMonth mp) d m1 m2 h.d_pos).2 (by rwa [e1, e2])
  have := h.d_pos
  rw [e]
  exact ⟨m1, m2, by simp only []; omega, by simp only []; omega⟩

theorem civil_days_roundtrip (y : Int) (m d : Nat) (hm1 : 1 ≤ m) (hm2 : m ≤ 12) (hd1 : 1 ≤ d)
    (hd2 : d ≤ daysInMonth y m) : civilFromDays (daysFromCivil y m d) = (y, m, d) := by
  have h := (marchDate_iff y m d hm1 hm2 (by omega)).1 (by omega)
  obtain ⟨e1, e2⟩ := civil_march y m hm1 hm2
  obtain ⟨n', mp', d', h', e, e'⟩ := civilFromDays_spec (daysFromCivil y m d)
  rw [daysFromCivil_eq] at e
  obtain ⟨rfl, rfl, rfl⟩ := marchDays_inj h h' e
  rw [e', e1, e2, Int.toNat_natCast]

theorem year_le_iff (y z : Int) : y ≤ (civilFromDays z).1 ↔ daysFromCivil y 1 1 ≤ z := by
  obtain ⟨n, mp, d, h, rfl, e⟩ := civilFromDays_spec z
  -- 1 January of `y` is day 1 of month 10 of March-based year `y - 1`: day 306 of that year
  have hy : daysFromCivil y 1 1 = marchDays (y - 1) 10 1 := daysFromCivil_eq y 1 1
  have hmp : mp < 10 ↔ (153 * mp + 2) / 5 + d - 1 < 306 := by
    have := h.in_month; have := h.d_pos; omega
  have hd0 : 0 ≤ (153 * mp + 2) / 5 + d - 1 := by have := h.mp_nonneg; have := h.d_pos; omega
  have := h.in_year
  have := yearStart_mono (y - 1) y (by omega)
  rw [hy, e]
  unfold marchDays at *
  unfold civilYear
  simp only []
  generalize (153 * mp + 2) / 5 + d - 1 = doy at *
  rcases Int.lt_trichotomy n (y - 1) with hn | rfl | hn
  · have := yearStart_mono (n + 1) (y - 1) hn
    omega
  · omega
  · have := yearStart_mono y n (by omega)
    omega

/-- the day range of 0000-01-01 .. 9999-12-31 maps into the years 0..=9999, and only it -/
theorem civil_year_bounds (z : Int) :
    (-719528 ≤ z ∧ z ≤ 2932896) ↔ (0 ≤ (civilFromDays z).1 ∧ (civilFromDays z).1 ≤ 9999) := by
  have h0 : daysFromCivil 0 1 1 = -719528 := by decide
  have h1 : daysFromCivil 10000 1 1 = 2932897 := by decide
  have := year_le_iff 10000 z
  rw [year_le_iff 0 z, h0]
  omega

end Rcgen
