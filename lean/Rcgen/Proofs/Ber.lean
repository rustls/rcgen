import Rcgen.Spec.Ber
import Rcgen.Proofs.Basic
import Rcgen.Proofs.DerRoundTrip
/-
  The tolerant reader extends the strict one: whatever the strict DER decoder reads, the tolerant
  reader reads as the same tree; in particular it reads what the encoder writes.
-/
namespace Rcgen.Proofs.Ber
open Rcgen.Spec

/-- `decLen` makes the tests of `decLenBer` and two more, which can only refuse -/
theorem decLenBer_of_decLen (b : Bytes) (r : Nat × Bytes) (h : decLen b = some r) :
    decLenBer b = some r := by
  cases b with
  | nil => cases h
  | cons x rest =>
    rw [decLen] at h
    rw [decLenBer]
    rcases ite_cases h with ⟨h1, h⟩ | ⟨h1, h⟩
    · rw [if_pos h1]
      exact h
    · obtain ⟨h2, h⟩ := ite_else_of_ne h nofun
      obtain ⟨h3, h⟩ := ite_else_of_ne h nofun
      obtain ⟨-, h⟩ := ite_else_of_ne h nofun
      obtain ⟨-, h⟩ := ite_else_of_ne h nofun
      rw [if_neg h1, if_neg h2, if_neg h3]
      exact h

/-- Both readers at once: `decode` calls `decodeList` and `decodeList` calls both, each with one
    unit of fuel less. -/
theorem decodeBer_of_decode (fuel : Nat) :
    (∀ b r, decode fuel b = some r → decodeBer fuel b = some r) ∧
    (∀ b ts, decodeList fuel b = some ts → decodeListBer fuel b = some ts) := by
  induction fuel with
  | zero => exact ⟨fun _ _ h => (by cases h), fun _ _ h => (by cases h)⟩
  | succ fuel ih =>
    refine ⟨fun b r h => ?_, fun b ts h => ?_⟩
    · cases b with
      | nil => cases h
      | cons x rest =>
        simp only [decode] at h
        simp only [decodeBer]
        obtain ⟨hn, h⟩ := ite_else_of_ne h nofun
        rw [if_neg hn]
        split at h
        · cases h
        · next n rest' hl =>
          rw [decLenBer_of_decLen _ _ hl]
          obtain ⟨hlen, h⟩ := ite_else_of_ne h nofun
          simp only [if_neg hlen]
          split at h
          · next hc =>
            rw [if_pos hc]
            split at h
            · cases h
            · next ch hd => rw [ih.2 _ _ hd]; exact h
          · next hc => rw [if_neg hc]; exact h
    · cases b with
      | nil => exact h
      | cons x rest =>
        simp only [decodeList] at h
        simp only [decodeListBer]
        split at h
        · cases h
        · next t rem hd =>
          rw [ih.1 _ _ hd]
          simp only
          split at h
          · cases h
          · next ts' hl => rw [ih.2 _ _ hl]; exact h

theorem decodeAllBer_of_decodeAll (b : Bytes) (t : Asn1) (h : decodeAll b = some t) :
    decodeAllBer b = some t := by
  unfold decodeAll at h
  unfold decodeAllBer
  split at h
  · next t' hd => rw [(decodeBer_of_decode _).1 _ _ hd]; exact h
  · cases h

theorem elementsBer_encodeList (ts : List Asn1) (h : WFList ts) :
    elementsBer (encodeList ts) = some ts :=
  (decodeBer_of_decode _).2 _ _
    (decodeList_encodeList ts h _ (by have := sizeList_le_encodeList ts h; omega))

theorem berPurposes_seq (ts : List Asn1) (h : (Asn1.cons 0 16 ts).WF) :
    berPurposes [encode (.cons 0 16 ts)] = (ts.mapM oidContentOf).map List.eraseDups := by
  have he := elementsBer_encodeList [.cons 0 16 ts] ⟨h, trivial⟩
  rw [encodeList, encodeList, List.append_nil] at he
  simp only [berPurposes, List.mapM_cons, List.mapM_nil, he, bind, Option.bind, pure]
  cases ts.mapM oidContentOf <;> simp

end Rcgen.Proofs.Ber
