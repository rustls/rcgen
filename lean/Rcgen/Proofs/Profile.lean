import Rcgen.Proofs.CertDecode
import Rcgen.Proofs.Name
/-
  C05 on the decoded certificate: the RFC 5280 profile clauses of `Spec.c05CertClauses` hold of
  what the to-be-signed certificate decodes to.
-/
namespace Rcgen.Proofs.Profile
open Rcgen.Model Rcgen.Spec Rcgen.Proofs.X509 Rcgen.Proofs.CertDecode

/-- each clause looks at the extensions under one identifier, which `filter_modelExts` gives as
    that identifier's row -/
theorem c05_cert_clauses_hold (i : CertInputs)
    (hinv : certInvalid i.p i.issuer = none)
    (hnp : certPanics i.p i.issuer = false)
    (hc : ∀ e ∈ i.p.customExts, e.oid ∉ knownOids)
    (hsize : (encode (tbsCertificate i.H i.p i.subject i.issuer)).length < 256 ^ 126)
    (hdn : Inv i.p.dn)
    (hser : i.p.serial.isSome = true ∨ (0 < reqSerial i ∧ reqSerial i < 2 ^ 159)) :
    c05CertClauses i (encode (tbsCertificate i.H i.p i.subject i.issuer)) = [] := by
  unfold c05CertClauses
  rw [tbs_decodes i hinv hnp hc hsize]
  have hexts : (modelTbs i).exts = modelExts i := rfl
  have own := filter_modelExts i hc
  simp only [List.append_eq_nil_iff, clause_eq_nil, and_assoc, hexts]
  refine ⟨rfl, ?_, ?_, ?_, ?_, ?_, ?_⟩
  · rcases hser with h | ⟨h1, h2⟩
    · simp [h]
    · simp [modelTbs, h1, h2]
  · have hsubj : (modelTbs i).subject.isEmpty = i.p.dn.entries.isEmpty := by
      rw [DistinguishedName.entries_isEmpty _ hdn]; simp [modelTbs, reqName]
    rw [hsubj, show _ = sanRow i.p from own oidSan (by decide), sanRow]
    split <;> simp
  · rw [show _ = bcRow i.p.isCa from own oidBasicConstraints (by decide)]
    cases i.p.isCa <;> rfl
  · rw [show _ = ncRow i.p.nameConstraints from own oidNameConstraints (by decide)]
    cases i.p.nameConstraints with
    | none => rfl
    | some nc => rw [ncRow]; cases nc.isEmpty <;> rfl
  · rw [show _ = akiRow _ _ from own oidAki (by decide), skis_model i hc]
    cases i.p.useAki <;> cases i.p.isCa <;> rfl
  · rw [List.all_eq_true]
    intro o ho
    have hk : o ∈ knownOids := (by decide : ∀ o ∈ [oidAki, oidSki, oidKeyUsage, oidSan,
      oidBasicConstraints, oidNameConstraints, oidCrlDps, oidEku], o ∈ knownOids) o ho
    simp [own_oid_at_most_once i hc o hk]

end Rcgen.Proofs.Profile
