import Rcgen.Proofs.ImportDecode
import Rcgen.Theorems.C13
import Rcgen.Proofs.Utf8
/-
  C17: importing what a generated certificate decodes to *succeeds* (the companion of
  `import_of_generated`, which says what a successful import returns).  Hypotheses are the
  invariants the validated types carry (C13) and the ranges of the Rust types (u8 path length,
  u64 identifier components), plus: no two attributes of the name share an identifier.
-/
namespace Rcgen.Proofs.ImportSucceeds
open Rcgen.Model Rcgen.Spec Rcgen.Proofs.X509 Rcgen.Proofs.CertDecode
open Rcgen.Model.DistinguishedName Rcgen.Proofs.ImportDecode

/-- the test `importValue` applies to each string kind.  It is meant as the invariant the
    string-type constructors establish (C13), but no lemma derives it from them: it enters
    `import_succeeds` as a hypothesis -/
def valueWellFormed : DnValue → Bool
  | .bmp b => bmpFromUtf16be b == some b
  | .ia5 b => b.all (fun x => x.toNat < 128)
  | .printable b => b.all printableByte
  | .teletex b => b.all (fun x => 32 ≤ x.toNat && x.toNat ≤ 127)
  | .universal b => universalFromUtf32be b == some b
  | .utf8 b => utf8Valid b

theorem importValue_reqAttr (ty : DnType) (v : DnValue) (h : valueWellFormed v = true) :
    importValue (reqAttr (ty, v)) = .ok v := by
  -- a kind restricted to 7-bit octets passes the UTF-8 test the glue applies before the alphabet's
  have ascii {b : Bytes} {p : UInt8 → Bool} (hp : ∀ x, p x = true → x.toNat < 128)
      (hb : b.all p = true) : utf8Valid b = true :=
    Utf8.ascii_utf8Valid b fun x hx => hp x (List.all_eq_true.1 hb x hx)
  cases v with
  | bmp b => simp [importValue, reqAttr, beq_iff_eq.1 h]
  | universal b => simp [importValue, reqAttr, beq_iff_eq.1 h]
  | utf8 b => simp [importValue, reqAttr, show utf8Valid b = true from h]
  | ia5 b =>
    have h : b.all (fun x => x.toNat < 128) = true := h
    simp [importValue, reqAttr, h, ascii (fun _ hx => of_decide_eq_true hx) h]
  | printable b =>
    have h : b.all printableByte = true := h
    simp [importValue, reqAttr, h, ascii Theorems.C13.printableByte_ascii h]
  | teletex b =>
    have h : b.all (fun x => 32 ≤ x.toNat && x.toNat ≤ 127) = true := h
    simp [importValue, reqAttr, h, ascii (fun x hx => by simp at hx; omega) h]

theorem reqAttr_oid (e : DnType × DnValue) : (reqAttr e).oid = rfcAttrOid e.1 := by
  obtain ⟨t, v⟩ := e
  cases v <;> rfl

/-- the glue's only test on the name under construction is `containsKey` for the next type -/
theorem importNameFrom_succeeds (l : List (DnType × DnValue)) (dn : DistinguishedName)
    (hwf : ∀ e ∈ l, valueWellFormed e.2 = true)
    (hu : ∀ e ∈ l, ∀ x ∈ rfcAttrOid e.1, x < 2 ^ 64)
    (hnd : (l.map (fun e => DnType.fromOid (rfcAttrOid e.1))).Nodup)
    (hdis : ∀ e ∈ l, dn.containsKey (DnType.fromOid (rfcAttrOid e.1)) = false) :
    ∃ dn', importNameFrom dn (reqName l) = .ok dn' := by
  induction l generalizing dn with
  | nil => exact ⟨dn, rfl⟩
  | cons e rest ih =>
    have hu1 := ImportFields.components_fit (hu e List.mem_cons_self)
    have hv := importValue_reqAttr e.1 e.2 (hwf e List.mem_cons_self)
    have hck := hdis e List.mem_cons_self
    obtain ⟨hnd1, hnd⟩ := List.nodup_cons.1 hnd
    obtain ⟨dn', hdn'⟩ := ih (dn.push (DnType.fromOid (rfcAttrOid e.1)) e.2)
      (fun x hx => hwf x (List.mem_cons_of_mem _ hx))
      (fun x hx => hu x (List.mem_cons_of_mem _ hx)) hnd
      (fun x hx => by
        -- a later type differs from the one just pushed, so it is present only if it was before
        have hne : DnType.fromOid (rfcAttrOid x.1) ≠ DnType.fromOid (rfcAttrOid e.1) :=
          fun h => hnd1 (List.mem_map.2 ⟨x, hx, h⟩)
        rw [containsKey, get_push, if_neg hne]
        exact hdis x (List.mem_cons_of_mem _ hx))
    refine ⟨dn', ?_⟩
    simp only [reqName, List.map_cons, importNameFrom, reqAttr_oid e, hu1, Bool.false_eq_true, if_false]
    rw [hv]
    simp only [hck, Bool.false_eq_true, if_false]
    exact hdn'

theorem import_succeeds (crypto : Bool) (i : CertInputs)
    (hc : ∀ e ∈ i.p.customExts, e.oid ∉ knownOids)
    (hwf : ∀ e ∈ i.p.dn.iter, valueWellFormed e.2 = true)
    (hu : ∀ e ∈ i.p.dn.iter, ∀ x ∈ rfcAttrOid e.1, x < 2 ^ 64)
    (hnd : (i.p.dn.iter.map (fun e => DnType.fromOid (rfcAttrOid e.1))).Nodup)
    (hpl : ∀ n, i.p.isCa = .ca (some n) → n ≤ 255)
    (hip : ∀ o, SanType.ip o ∈ i.p.sans → o.length = 4 ∨ o.length = 16)
    (hother : ∀ oid v, SanType.otherName oid v ∈ i.p.sans → utf8Valid v = true ∧ ∀ x ∈ oid, x < 2 ^ 64)
    (hnc : ∀ nc, i.p.nameConstraints = some nc →
      nc.permitted.all ImportFields.subtreeSupported = true ∧
      nc.excluded.all ImportFields.subtreeSupported = true)
    (hkid : crypto = true ∨ ∃ b rest, (modelTbs i).exts.filterMap skiOf = b :: rest) :
    ∃ p', importCa crypto (modelTbs i) = .ok p' := by
  obtain ⟨dn', hdn⟩ : ∃ dn', importName (reqName i.p.dn.iter) = .ok dn' :=
    importNameFrom_succeeds i.p.dn.iter DistinguishedName.new hwf hu hnd fun _ _ => rfl
  have ⟨kid, hk⟩ : ∃ kid, importKid crypto (modelTbs i) = .ok kid := by
    unfold importKid
    rcases hkid with hcr | ⟨b, rest, hb⟩
    · subst hcr; split <;> exact ⟨_, rfl⟩
    · rw [hb]; exact ⟨_, rfl⟩
  exact ⟨_, by rw [importCa_generated crypto i hc hpl hip hother hnc, hdn, hk]; rfl⟩

end Rcgen.Proofs.ImportSucceeds
