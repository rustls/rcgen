/-
  Byte strings and the Nat <-> big-endian bytes conversions used everywhere.
  No imports beyond core: this file is linked into the driver executable.
-/
namespace Rcgen

abbrev Bytes := List UInt8

/-- core's `UInt8.toNat_ofNat_of_lt'` with the bound as a numeral, so that `omega` proves it -/
theorem toNat_ofNat_lt {n : Nat} (h : n < 256) : (UInt8.ofNat n).toNat = n :=
  UInt8.toNat_ofNat_of_lt' h

/-- big-endian minimal bytes of a Nat (empty for 0); fuel-structural so that the kernel can
    evaluate it (`decide` over finite tables) -/
def beBytesAux : Nat → Nat → Bytes
  | 0, _ => []
  | f + 1, n => if n = 0 then [] else beBytesAux f (n / 256) ++ [UInt8.ofNat (n % 256)]

def beBytes (n : Nat) : Bytes := beBytesAux n n

theorem beBytesAux_fuel (f g n : Nat) (hf : n ≤ f) (hg : n ≤ g) :
    beBytesAux f n = beBytesAux g n := by
  induction f generalizing g n with
  | zero =>
    obtain rfl : n = 0 := by omega
    cases g <;> rfl
  | succ f ih =>
    cases g with
    | zero =>
      obtain rfl : n = 0 := by omega
      rfl
    | succ g =>
      simp only [beBytesAux]
      split
      · rfl
      · rw [ih g (n / 256) (by omega) (by omega)]

theorem beBytes_unfold (n : Nat) :
    beBytes n = if n = 0 then [] else beBytes (n / 256) ++ [UInt8.ofNat (n % 256)] := by
  cases n with
  | zero => rfl
  | succ m =>
    rw [beBytes, beBytesAux, beBytes,
      beBytesAux_fuel m _ ((m + 1) / 256) (by omega) (Nat.le_refl _)]

/-- big-endian value of a byte string -/
def ofBe (bs : Bytes) : Nat := bs.foldl (fun acc b => acc * 256 + b.toNat) 0

/-- fixed-width big-endian bytes (`k` bytes, value taken modulo 256^k) -/
def beBytesFixed : Nat → Nat → Bytes
  | 0, _ => []
  | k + 1, n => beBytesFixed k (n / 256) ++ [UInt8.ofNat (n % 256)]

theorem ofBe_append_single (bs : Bytes) (b : UInt8) :
    ofBe (bs ++ [b]) = ofBe bs * 256 + b.toNat := by
  simp [ofBe, List.foldl_append]

theorem ofBe_beBytes (n : Nat) : ofBe (beBytes n) = n := by
  induction n using Nat.strongRecOn with
  | _ n ih =>
    rw [beBytes_unfold]
    split
    · simp [ofBe, *]
    · rw [ofBe_append_single, ih (n/256) (by omega), toNat_ofNat_lt (Nat.mod_lt _ (by decide))]
      omega

theorem beBytes_ne_nil {n : Nat} (h : n ≠ 0) : (beBytes n) ≠ [] := by
  rw [beBytes_unfold]
  simp [h]

theorem beBytes_head_ne_zero (n : Nat) : (beBytes n).head? ≠ some 0 := by
  induction n using Nat.strongRecOn with
  | _ n ih =>
    rw [beBytes_unfold]
    split
    · simp
    · cases hb : beBytes (n / 256) with
      | cons a r =>
        have := ih (n / 256) (by omega)
        rwa [hb] at this
      | nil =>
        -- no higher octets: `n < 256`, and the one octet is `n` itself
        have h2 : n / 256 = 0 := Decidable.by_contra fun h2 => beBytes_ne_nil h2 hb
        intro hc
        have := congrArg UInt8.toNat (Option.some.inj hc)
        simp [UInt8.toNat_ofNat'] at this
        omega

theorem beBytes_length_le (n : Nat) (k : Nat) (h : n < 256 ^ k) : (beBytes n).length ≤ k := by
  induction k generalizing n with
  | zero =>
    simp at h
    subst h
    rw [beBytes_unfold]
    simp
  | succ k ih =>
    rw [beBytes_unfold]
    split
    · simp
    · simp
      apply ih
      rw [Nat.pow_succ] at h
      omega

theorem beBytesFixed_length (k n : Nat) : (beBytesFixed k n).length = k := by
  induction k generalizing n with
  | zero => simp [beBytesFixed]
  | succ k ih => simp [beBytesFixed, ih]

theorem beBytesFixed_getElem (k n i : Nat) (h : i < (beBytesFixed k n).length) :
    (beBytesFixed k n)[i] = UInt8.ofNat (n / 2 ^ (8 * (k - 1 - i))) := by
  induction k generalizing n with
  | zero => simp [beBytesFixed] at h
  | succ k ih =>
    simp only [beBytesFixed_length] at h ih
    simp only [beBytesFixed]
    by_cases hi : i < k
    · rw [List.getElem_append_left (by simpa [beBytesFixed_length] using hi), ih _ hi,
        Nat.div_div_eq_div_mul, ← Nat.pow_add 2 8]
      congr 3
      omega
    · have : i = k := by omega
      subst this
      rw [List.getElem_append_right (by simp [beBytesFixed_length])]
      simp [beBytesFixed_length, ← UInt8.ofNat_mod_size (x := n)]

theorem ofBe_beBytesFixed (k n : Nat) (h : n < 256 ^ k) : ofBe (beBytesFixed k n) = n := by
  induction k generalizing n with
  | zero =>
    simp at h
    subst h
    simp [beBytesFixed, ofBe]
  | succ k ih =>
    simp only [beBytesFixed]
    rw [ofBe_append_single, ih (n / 256) (by rw [Nat.pow_succ] at h; omega),
      toNat_ofNat_lt (Nat.mod_lt _ (by decide))]
    omega

/-! hex (driver protocol, replay files) -/

def hexDigit (n : Nat) : Char :=
  if n < 10 then Char.ofNat (48 + n) else Char.ofNat (87 + n)

def hexOfBytes (bs : Bytes) : String :=
  String.ofList (bs.flatMap fun b => [hexDigit (b.toNat / 16), hexDigit (b.toNat % 16)])

def hexVal (c : Char) : Option Nat :=
  let n := c.toNat
  if 48 ≤ n ∧ n ≤ 57 then some (n - 48)
  else if 97 ≤ n ∧ n ≤ 102 then some (n - 87)
  else if 65 ≤ n ∧ n ≤ 70 then some (n - 55)
  else none

def bytesOfHexChars : List Char → Option Bytes
  | [] => some []
  | [_] => none
  | a :: b :: rest =>
    match hexVal a, hexVal b, bytesOfHexChars rest with
    | some x, some y, some r => some (UInt8.ofNat (x * 16 + y) :: r)
    | _, _, _ => none

def bytesOfHex (s : String) : Option Bytes := bytesOfHexChars s.toList

/-- lexicographic order on byte strings, as `Vec<u8>::cmp` (shorter prefix first) -/
def bytesLe : Bytes → Bytes → Bool
  | [], _ => true
  | _ :: _, [] => false
  | a :: as, b :: bs => if a < b then true else if b < a then false else bytesLe as bs

end Rcgen
