import Rcgen.Model.Pem
import Rcgen.Spec.Pem
/-
  pem 3.0.5 `parse` (parser.rs `parser_inner`, `read_until`, `skip_whitespace`,
  `extract_headers_and_data`; lib.rs `Pem::new_from_captures`, `decode_data`,
  `HeaderMap::parse`) — the lenient reader behind rcgen's own PEM loaders
  (`KeyPair::from_pem`, `from_ca_cert_pem`, `CertificateSigningRequestParams::from_pem`,
  `SubjectPublicKeyInfo::from_pem`), which take the first block of the text and use its
  contents whatever its label.  A third-party contract, written down because the last sentence
  of C14 is about it; tied to the real `pem::parse` on every text the C14 check produces.
-/
namespace Rcgen.Model

/-- `read_until`: one pass; on a mismatch `found` drops to 0 and the octet is not looked at
    again.  `seen` = the input consumed so far.  Result: (remaining, matched) -/
def readUntilLoop (marker : Bytes) : Bytes → Nat → Bytes → Option (Bytes × Bytes)
  | [], _, _ => none
  | c :: rest, found, seen =>
    if (c :: rest).length < marker.length - found then none
    else
      let found' := if marker[found]? == some c then found + 1 else 0
      let seen' := seen ++ [c]
      if found' == marker.length then some (rest, seen'.take (seen'.length - found'))
      else readUntilLoop marker rest found' seen'

def readUntil (input marker : Bytes) : Option (Bytes × Bytes) :=
  if marker.isEmpty then some ([], input) else readUntilLoop marker input 0 []

/-- the same matcher as the compiler sees it: the consumed input kept reversed and the remaining
    length carried along, so that a text of n octets costs n steps and not n² (`readUntilLoop`
    appends to `seen` and measures the rest at every octet).  `readUntil_eq_fast` below is the
    proof that nothing else changes; every theorem is about `readUntilLoop`. -/
def readUntilFast (marker : Bytes) (mlen : Nat) : Bytes → Nat → Nat → Bytes → Option (Bytes × Bytes)
  | [], _, _, _ => none
  | c :: rest, len, found, seenRev =>
    if len < mlen - found then none
    else
      let found' := if marker[found]? == some c then found + 1 else 0
      if found' == mlen then some (rest, ((c :: seenRev).drop found').reverse)
      else readUntilFast marker mlen rest (len - 1) found' (c :: seenRev)

theorem readUntilLoop_eq_fast (marker : Bytes) (l : Bytes) (found : Nat) (seen : Bytes) :
    readUntilLoop marker l found seen
      = readUntilFast marker marker.length l l.length found seen.reverse := by
  induction l generalizing found seen with
  | nil => rfl
  | cons c rest ih =>
    -- one step of each: the twin's `c :: seenRev` is `seen ++ [c]` reversed, so what it drops
    -- from the front is what `readUntilLoop` leaves off at the end
    have hrev : c :: seen.reverse = (seen ++ [c]).reverse := by simp
    simp only [readUntilLoop, readUntilFast, ih, hrev, List.drop_reverse, List.reverse_reverse,
      List.length_cons, Nat.add_sub_cancel]

def readUntilImpl (input marker : Bytes) : Option (Bytes × Bytes) :=
  if marker.isEmpty then some ([], input) else readUntilFast marker marker.length input input.length 0 []

@[csimp] theorem readUntil_eq_fast : @readUntil = @readUntilImpl := by
  funext input marker
  rw [readUntil, readUntilImpl, readUntilLoop_eq_fast, List.reverse_nil]

def isPemWs (b : UInt8) : Bool := b = 32 || b = 9 || b = 10 || b = 13

def skipWhitespace : Bytes → Bytes
  | [] => []
  | b :: rest => if isPemWs b then skipWhitespace rest else b :: rest

structure Captures where
  begin : Bytes
  headers : Bytes
  data : Bytes
  end_ : Bytes
  deriving DecidableEq, Repr

def extractHeadersAndData (payload : Bytes) : Bytes × Bytes :=
  match readUntil payload [10, 10] with
  | some (rest, headers) => (headers, rest)
  | none =>
    match readUntil payload [13, 10, 13, 10] with
    | some (rest, headers) => (headers, rest)
    | none => ([], payload)

def parserInner (input : Bytes) : Option (Bytes × Captures) :=
  match readUntil input beginPrefix with
  | none => none
  | some (i1, _) =>
    match readUntil i1 dashes with
    | none => none
    | some (i2, begin) =>
      match readUntil (skipWhitespace i2) endPrefix with
      | none => none
      | some (i4, payload) =>
        let hd := extractHeadersAndData payload
        match readUntil i4 dashes with
        | none => none
        | some (rem, e) => some (skipWhitespace rem, ⟨begin, hd.1, hd.2, e⟩)

/-- `char::is_whitespace` on ASCII (the data of a text rcgen wrote is ASCII; the Unicode spaces
    beyond it are in `stripUnicodeWs`) -/
def isAsciiWs (b : UInt8) : Bool := b = 32 || (9 ≤ b.toNat && b.toNat ≤ 13)

/-- how many octets at the head of `l` encode one White_Space character (0: none does).
    ASCII: U+0009..U+000D, U+0020; beyond: U+0085, U+00A0, U+1680, U+2000..U+200A, U+2028,
    U+2029, U+202F, U+205F, U+3000 in UTF-8 -/
def wsPrefixLen : Bytes → Nat
  | 0xC2 :: 0x85 :: _ => 2
  | 0xC2 :: 0xA0 :: _ => 2
  | 0xE1 :: 0x9A :: 0x80 :: _ => 3
  | 0xE2 :: 0x80 :: c :: _ =>
    if (0x80 ≤ c.toNat && c.toNat ≤ 0x8A) || c = 0xA8 || c = 0xA9 || c = 0xAF then 3 else 0
  | 0xE2 :: 0x81 :: 0x9F :: _ => 3
  | 0xE3 :: 0x80 :: 0x80 :: _ => 3
  | b :: _ => if isAsciiWs b then 1 else 0
  | [] => 0

/-- `raw_data.chars().filter(|c| !c.is_whitespace())` on UTF-8 bytes (fuel: the length) -/
def stripWsFuel : Nat → Bytes → Bytes
  | 0, _ => []
  | _ + 1, [] => []
  | f + 1, b :: r =>
    let n := wsPrefixLen (b :: r)
    if n = 0 then b :: stripWsFuel f r else stripWsFuel f ((b :: r).drop n)

def stripWs (l : Bytes) : Bytes := stripWsFuel l.length l

/-- `str::lines`: split at LF, a trailing CR of each line dropped, no empty last line -/
def headerLines (h : Bytes) : List Bytes :=
  let ls := Spec.splitLf h
  let ls := if ls.getLast? == some [] then ls.dropLast else ls
  ls.map (fun l => if l.getLast? == some 13 then l.dropLast else l)

inductive PemParseErr
  | malformedFraming | missingBeginTag | missingEndTag | mismatchedTags | invalidData | invalidHeader
  deriving DecidableEq, Repr

/-- `pem::parse`: the first block of a text -/
def pemParse (input : Bytes) : Except PemParseErr (Bytes × Bytes) :=
  match parserInner input with
  | none => .error .malformedFraming
  | some (_, c) =>
    if c.begin.isEmpty then .error .missingBeginTag
    else if c.end_.isEmpty then .error .missingEndTag
    else if c.begin != c.end_ then .error .mismatchedTags
    else
      match Spec.b64Decode (stripWs c.data) with
      | none => .error .invalidData
      | some contents =>
        -- `HeaderMap::parse`: every header line has a colon
        if (headerLines c.headers).all (fun l => l.contains 58) then .ok (c.begin, contents)
        else .error .invalidHeader

end Rcgen.Model
